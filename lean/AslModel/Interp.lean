/-
L3 — big-step reference semantics of an execution: what the States Language prescribes for
(machine, input, behaviour of the tasks).  Deterministic; fan-out branches are evaluated in
index order.  The status is computed from *how the run ended* (Succeed/End reached, or a
Fail state / unhandled error), never from the data — that is the reading of C01.

The machine is interpreted directly from its JSON definition, the way the engine does.
Payload templates, Choice rules and task behaviour are parameters (`Env`).
-/
import AslModel.Path
import AslModel.Retry
import AslModel.Timestamp
import AslModel.Frames
namespace Asl

/-- what a worker answers: the raw reply document -/
abbrev TaskFn := Str → Json → Nat → Json

structure Env where
  /-- `evaluate_payload_template(input, context, template)` for a non-empty template -/
  tmpl : Json → Json → Json → Except PErr Json
  /-- the `Next` of the first matching Choice rule: choice state, effective input, raw input, context -/
  choose : Json → Json → Json → Json → Option Str
  /-- reply of the worker behind `resource` to its n-th request carrying `payload` -/
  task : TaskFn
  maxData : Nat := 262144
  /-- how long (ms) the worker takes to answer that request; `none`: it never answers -/
  delay : Str → Json → Nat → Option Rat := fun _ _ _ => some 10
  /-- the instant (ms since 1970-01-01T00:00:00Z) at which the start event is published: instant 0 of the clock -/
  startMs : Rat := 1700000000000
  /-- the execution's time limit as an instant on the run's clock (ms since the start event): the machine's top-level
  `TimeoutSeconds` × 1000 (`run` takes it from the definition: `Env.forMachine`); `none`: no limit (the engine then
  uses its configured `execution_ttl`, one day by default — outside the model) -/
  deadline : Option Rat := none
  /-- switch of the open finding C08-F1 (default off: the property's reading).  A Retrier's interval is not cut at the
  execution's time limit in the code: the retried state's deferred handler runs when the interval is over, however
  long after the limit, and only then does the execution fail (a Task even publishes its request first, with a
  time-to-live of 0).  With the switch on the model copies that; with it off an interval that would end at or after
  the limit ends the execution at the limit. -/
  retryPastDeadline : Bool := false

/-- an event of the execution history of a STANDARD execution, as far as the reference semantics
determines it (what `update_execution_history` is called with in state_engine.py / task_dispatcher.py for
the modelled fragment: function Tasks, the eight state types, Retry / Catch, Parallel / Map).  Ids,
timestamps, `roleArn`, `timeoutInSeconds` and the `…Aborted` events of cancelled siblings are not part of it. -/
inductive Ev where
  /-- `<ty>StateEntered {name, input}` -/
  | entered (ty : Str) (name : Str) (input : Json)
  /-- `<ty>StateExited {name, output}` -/
  | exited (ty : Str) (name : Str) (output : Json)
  /-- `LambdaFunctionScheduled {input, resource}` -/
  | lambdaScheduled (input : Json) (resource : Str)
  /-- `LambdaFunctionSucceeded {output}` — the reply as the worker sent it -/
  | lambdaSucceeded (output : Json)
  /-- `LambdaFunctionFailed {error, cause}` — the reply's `errorType` and `errorMessage` (default `""`) -/
  | lambdaFailed (error : Json) (cause : Json)
  /-- `LambdaFunctionTimedOut {error := "States.Timeout"}` — the Task's `TimeoutSeconds` ran out -/
  | lambdaTimedOut
  /-- `ParallelStateStarted {}` / `MapStateStarted {length}` -/
  | fanStarted (ty : Str) (length : Option Nat)
  /-- `MapIterationStarted {name, index}` -/
  | iterStarted (name : Str) (index : Nat)
  /-- `MapIterationFailed {name, index}` -/
  | iterFailed (name : Str) (index : Nat)
  /-- `<ty>StateFailed {}` (Parallel / Map) -/
  | fanFailed (ty : Str)
  /-- `ExecutionStarted {input}` -/
  | execStarted (input : Json)
  /-- `ExecutionSucceeded {output}` -/
  | execSucceeded (output : Json)
  /-- `ExecutionFailed {error, cause}` -/
  | execFailed (error : Str) (cause : Option Json)
  deriving Inhabited, DecidableEq

/-- the events that open and close an execution -/
def Ev.isExec : Ev → Bool
  | .execStarted _ => true
  | .execSucceeded _ => true
  | .execFailed _ _ => true
  | _ => false

structure St where
  counts : List ((Str × Json) × Nat) := []
  trace : List Str := []          -- entered states, most recent first
  multiFail : Bool := false       -- more than one branch of some fan-out attempt failed
  /-- … and two of them at the same instant (or an ItemSelector failed after earlier iterations ran): then even
  with every event handled the instant it is due, which failure is the fan-out's is not decided by the clock -/
  tieFail : Bool := false
  /-- what the execution history records about states, most recent first: a state is `entered` where
  `notify` writes `…StateEntered` (first entry — not a retry re-entry, not the re-entry of a Map for its
  next batch) and `exited` where `change_state` / `end_execution` / `handle_terminal_state` write
  `…StateExited` (transition accepted — also the transition of a Catcher, which the engine files under the
  caught state's name with the data handed to the Catcher's `Next` —, End / Succeed reached with an output
  within the limit); a state that fails or is cut short is not exited -/
  log : List Ev := []
  fanFail : Bool := false         -- some Parallel / Map attempt failed (which siblings ran is then timing)
  /-- the virtual clock: milliseconds since the start event was published.  Handling an event takes no
  time; time passes while a worker works (`Env.delay`), a Wait state waits, a Retrier's interval runs, a
  Task's `TimeoutSeconds` runs out.  Inside a fan-out every branch starts at the fan-out's instant. -/
  clock : Rat := 0
  /-- the instants of the events of `log`, in the same order -/
  times : List Rat := []
  /-- the broker frames of the engine connection, per handler step (`AslModel/Frames.lean`) -/
  fs : FS := {}
  deriving Inhabited

def rmax (a b : Rat) : Rat := if a ≤ b then b else a

/-- the clock set to `t` -/
def St.at (st : St) (t : Rat) : St := { st with clock := t }

/-- time passes until `t` (no time passes if `t` is already over) -/
def St.waitUntil (st : St) (t : Rat) : St := { st with clock := rmax st.clock t }

/-- `d` seconds pass (a Retrier's interval) -/
def St.after (st : St) (d : Rat) : St := st.waitUntil (st.clock + d * 1000)

/-- the frame state changes (nothing else does) -/
def St.fr (st : St) (f : FS → FS) : St := { st with fs := f st.fs }

/-- the successor event (for state `name`) is published, the step ends with the acknowledgements, the event arrives -/
def St.handover (st : St) (name : Str) : St := st.fr (fun fs => fs.handover st.clock name)
/-- the step ends; its event stays unacknowledged (a deferred handler will go on) -/
def St.closeKeep (st : St) : St := st.fr (fun fs => fs.closeKeep st.clock)
/-- a Task's delegate publishes the request; the reply arrives (unless the Task runs into its time limit) -/
def St.request (st : St) (timedOut : Bool) : St := st.fr (fun fs => fs.request st.clock timedOut)
def St.pushLevel (st : St) (mc : Nat) : St := st.fr (fun fs => fs.pushLevel mc)
/-- the state is visited: its kind joins the skeleton -/
def St.visit (st : St) (ty : Str) : St :=
  st.fr (fun fs => fs.visit (if ty = S "Task" then .tq else if ty = S "Wait" then .w else if ty = S "Fail" then .f
    else if ty = S "Parallel" || ty = S "Map" then .fan else .s))
/-- the visit in progress fails its scope (nobody handles its error) -/
def St.failTok (st : St) : St := st.fr FS.failTok
/-- the delegate of a Parallel / Map state publishes the events of the branches `names` -/
def St.launch (st : St) (names : List Str) : St := st.fr (fun fs => fs.launch st.clock names)
def St.startBranch (st : St) : St := st.fr FS.startBranch
def St.endBranch (st : St) (failed : Bool) : St := st.fr (fun fs => fs.endBranch st.clock failed)
def St.join (st : St) (failed : Bool) : St := st.fr (fun fs => fs.join failed)
/-- a batch of a Map state is complete: re-entry event, next batch `names` -/
def St.batch (st : St) (name : Str) (names : List Str) : St := st.fr (fun fs => fs.batch st.clock name names)

/-! the frame state is the only thing these change -/
@[simp] theorem St.fr_counts (st : St) (f : FS → FS) : (st.fr f).counts = st.counts := rfl
@[simp] theorem St.fr_trace (st : St) (f : FS → FS) : (st.fr f).trace = st.trace := rfl
@[simp] theorem St.fr_multiFail (st : St) (f : FS → FS) : (st.fr f).multiFail = st.multiFail := rfl
@[simp] theorem St.fr_tieFail (st : St) (f : FS → FS) : (st.fr f).tieFail = st.tieFail := rfl
@[simp] theorem St.fr_log (st : St) (f : FS → FS) : (st.fr f).log = st.log := rfl
@[simp] theorem St.fr_fanFail (st : St) (f : FS → FS) : (st.fr f).fanFail = st.fanFail := rfl
@[simp] theorem St.fr_clock (st : St) (f : FS → FS) : (st.fr f).clock = st.clock := rfl
@[simp] theorem St.fr_times (st : St) (f : FS → FS) : (st.fr f).times = st.times := rfl
@[simp] theorem St.handover_counts (st : St) (n : Str) : (st.handover n).counts = st.counts := rfl
@[simp] theorem St.handover_trace (st : St) (n : Str) : (st.handover n).trace = st.trace := rfl
@[simp] theorem St.handover_multiFail (st : St) (n : Str) : (st.handover n).multiFail = st.multiFail := rfl
@[simp] theorem St.handover_tieFail (st : St) (n : Str) : (st.handover n).tieFail = st.tieFail := rfl
@[simp] theorem St.handover_log (st : St) (n : Str) : (st.handover n).log = st.log := rfl
@[simp] theorem St.handover_fanFail (st : St) (n : Str) : (st.handover n).fanFail = st.fanFail := rfl
@[simp] theorem St.handover_clock (st : St) (n : Str) : (st.handover n).clock = st.clock := rfl
@[simp] theorem St.handover_times (st : St) (n : Str) : (st.handover n).times = st.times := rfl
@[simp] theorem St.closeKeep_counts (st : St)  : (st.closeKeep ).counts = st.counts := rfl
@[simp] theorem St.closeKeep_trace (st : St)  : (st.closeKeep ).trace = st.trace := rfl
@[simp] theorem St.closeKeep_multiFail (st : St)  : (st.closeKeep ).multiFail = st.multiFail := rfl
@[simp] theorem St.closeKeep_tieFail (st : St)  : (st.closeKeep ).tieFail = st.tieFail := rfl
@[simp] theorem St.closeKeep_log (st : St)  : (st.closeKeep ).log = st.log := rfl
@[simp] theorem St.closeKeep_fanFail (st : St)  : (st.closeKeep ).fanFail = st.fanFail := rfl
@[simp] theorem St.closeKeep_clock (st : St)  : (st.closeKeep ).clock = st.clock := rfl
@[simp] theorem St.closeKeep_times (st : St)  : (st.closeKeep ).times = st.times := rfl
@[simp] theorem St.request_counts (st : St) (b : Bool) : (st.request b).counts = st.counts := rfl
@[simp] theorem St.request_trace (st : St) (b : Bool) : (st.request b).trace = st.trace := rfl
@[simp] theorem St.request_multiFail (st : St) (b : Bool) : (st.request b).multiFail = st.multiFail := rfl
@[simp] theorem St.request_tieFail (st : St) (b : Bool) : (st.request b).tieFail = st.tieFail := rfl
@[simp] theorem St.request_log (st : St) (b : Bool) : (st.request b).log = st.log := rfl
@[simp] theorem St.request_fanFail (st : St) (b : Bool) : (st.request b).fanFail = st.fanFail := rfl
@[simp] theorem St.request_clock (st : St) (b : Bool) : (st.request b).clock = st.clock := rfl
@[simp] theorem St.request_times (st : St) (b : Bool) : (st.request b).times = st.times := rfl
@[simp] theorem St.pushLevel_counts (st : St) (mc : Nat) : (st.pushLevel mc).counts = st.counts := rfl
@[simp] theorem St.visit_counts (st : St) (ty : Str) : (st.visit ty).counts = st.counts := rfl
@[simp] theorem St.failTok_counts (st : St) : st.failTok.counts = st.counts := rfl
@[simp] theorem St.pushLevel_trace (st : St) (mc : Nat) : (st.pushLevel mc).trace = st.trace := rfl
@[simp] theorem St.visit_trace (st : St) (ty : Str) : (st.visit ty).trace = st.trace := rfl
@[simp] theorem St.failTok_trace (st : St) : st.failTok.trace = st.trace := rfl
@[simp] theorem St.pushLevel_multiFail (st : St) (mc : Nat) : (st.pushLevel mc).multiFail = st.multiFail := rfl
@[simp] theorem St.visit_multiFail (st : St) (ty : Str) : (st.visit ty).multiFail = st.multiFail := rfl
@[simp] theorem St.failTok_multiFail (st : St) : st.failTok.multiFail = st.multiFail := rfl
@[simp] theorem St.pushLevel_tieFail (st : St) (mc : Nat) : (st.pushLevel mc).tieFail = st.tieFail := rfl
@[simp] theorem St.visit_tieFail (st : St) (ty : Str) : (st.visit ty).tieFail = st.tieFail := rfl
@[simp] theorem St.failTok_tieFail (st : St) : st.failTok.tieFail = st.tieFail := rfl
@[simp] theorem St.pushLevel_log (st : St) (mc : Nat) : (st.pushLevel mc).log = st.log := rfl
@[simp] theorem St.visit_log (st : St) (ty : Str) : (st.visit ty).log = st.log := rfl
@[simp] theorem St.failTok_log (st : St) : st.failTok.log = st.log := rfl
@[simp] theorem St.pushLevel_fanFail (st : St) (mc : Nat) : (st.pushLevel mc).fanFail = st.fanFail := rfl
@[simp] theorem St.visit_fanFail (st : St) (ty : Str) : (st.visit ty).fanFail = st.fanFail := rfl
@[simp] theorem St.failTok_fanFail (st : St) : st.failTok.fanFail = st.fanFail := rfl
@[simp] theorem St.pushLevel_clock (st : St) (mc : Nat) : (st.pushLevel mc).clock = st.clock := rfl
@[simp] theorem St.visit_clock (st : St) (ty : Str) : (st.visit ty).clock = st.clock := rfl
@[simp] theorem St.failTok_clock (st : St) : st.failTok.clock = st.clock := rfl
@[simp] theorem St.pushLevel_times (st : St) (mc : Nat) : (st.pushLevel mc).times = st.times := rfl
@[simp] theorem St.visit_times (st : St) (ty : Str) : (st.visit ty).times = st.times := rfl
@[simp] theorem St.failTok_times (st : St) : st.failTok.times = st.times := rfl
@[simp] theorem St.launch_counts (st : St) (ns : List Str) : (st.launch ns).counts = st.counts := rfl
@[simp] theorem St.launch_trace (st : St) (ns : List Str) : (st.launch ns).trace = st.trace := rfl
@[simp] theorem St.launch_multiFail (st : St) (ns : List Str) : (st.launch ns).multiFail = st.multiFail := rfl
@[simp] theorem St.launch_tieFail (st : St) (ns : List Str) : (st.launch ns).tieFail = st.tieFail := rfl
@[simp] theorem St.launch_log (st : St) (ns : List Str) : (st.launch ns).log = st.log := rfl
@[simp] theorem St.launch_fanFail (st : St) (ns : List Str) : (st.launch ns).fanFail = st.fanFail := rfl
@[simp] theorem St.launch_clock (st : St) (ns : List Str) : (st.launch ns).clock = st.clock := rfl
@[simp] theorem St.launch_times (st : St) (ns : List Str) : (st.launch ns).times = st.times := rfl
@[simp] theorem St.startBranch_counts (st : St)  : (st.startBranch ).counts = st.counts := rfl
@[simp] theorem St.startBranch_trace (st : St)  : (st.startBranch ).trace = st.trace := rfl
@[simp] theorem St.startBranch_multiFail (st : St)  : (st.startBranch ).multiFail = st.multiFail := rfl
@[simp] theorem St.startBranch_tieFail (st : St)  : (st.startBranch ).tieFail = st.tieFail := rfl
@[simp] theorem St.startBranch_log (st : St)  : (st.startBranch ).log = st.log := rfl
@[simp] theorem St.startBranch_fanFail (st : St)  : (st.startBranch ).fanFail = st.fanFail := rfl
@[simp] theorem St.startBranch_clock (st : St)  : (st.startBranch ).clock = st.clock := rfl
@[simp] theorem St.startBranch_times (st : St)  : (st.startBranch ).times = st.times := rfl
@[simp] theorem St.endBranch_counts (st : St) (b : Bool) : (st.endBranch b).counts = st.counts := rfl
@[simp] theorem St.endBranch_trace (st : St) (b : Bool) : (st.endBranch b).trace = st.trace := rfl
@[simp] theorem St.endBranch_multiFail (st : St) (b : Bool) : (st.endBranch b).multiFail = st.multiFail := rfl
@[simp] theorem St.endBranch_tieFail (st : St) (b : Bool) : (st.endBranch b).tieFail = st.tieFail := rfl
@[simp] theorem St.endBranch_log (st : St) (b : Bool) : (st.endBranch b).log = st.log := rfl
@[simp] theorem St.endBranch_fanFail (st : St) (b : Bool) : (st.endBranch b).fanFail = st.fanFail := rfl
@[simp] theorem St.endBranch_clock (st : St) (b : Bool) : (st.endBranch b).clock = st.clock := rfl
@[simp] theorem St.endBranch_times (st : St) (b : Bool) : (st.endBranch b).times = st.times := rfl
@[simp] theorem St.join_counts (st : St) (b : Bool) : (st.join b).counts = st.counts := rfl
@[simp] theorem St.join_trace (st : St) (b : Bool) : (st.join b).trace = st.trace := rfl
@[simp] theorem St.join_multiFail (st : St) (b : Bool) : (st.join b).multiFail = st.multiFail := rfl
@[simp] theorem St.join_tieFail (st : St) (b : Bool) : (st.join b).tieFail = st.tieFail := rfl
@[simp] theorem St.join_log (st : St) (b : Bool) : (st.join b).log = st.log := rfl
@[simp] theorem St.join_fanFail (st : St) (b : Bool) : (st.join b).fanFail = st.fanFail := rfl
@[simp] theorem St.join_clock (st : St) (b : Bool) : (st.join b).clock = st.clock := rfl
@[simp] theorem St.join_times (st : St) (b : Bool) : (st.join b).times = st.times := rfl
@[simp] theorem St.batch_counts (st : St) (n : Str) (ns : List Str) : (st.batch n ns).counts = st.counts := rfl
@[simp] theorem St.batch_trace (st : St) (n : Str) (ns : List Str) : (st.batch n ns).trace = st.trace := rfl
@[simp] theorem St.batch_multiFail (st : St) (n : Str) (ns : List Str) : (st.batch n ns).multiFail = st.multiFail := rfl
@[simp] theorem St.batch_tieFail (st : St) (n : Str) (ns : List Str) : (st.batch n ns).tieFail = st.tieFail := rfl
@[simp] theorem St.batch_log (st : St) (n : Str) (ns : List Str) : (st.batch n ns).log = st.log := rfl
@[simp] theorem St.batch_fanFail (st : St) (n : Str) (ns : List Str) : (st.batch n ns).fanFail = st.fanFail := rfl
@[simp] theorem St.batch_clock (st : St) (n : Str) (ns : List Str) : (st.batch n ns).clock = st.clock := rfl
@[simp] theorem St.batch_times (st : St) (n : Str) (ns : List Str) : (st.batch n ns).times = st.times := rfl

def St.push (st : St) (e : Ev) : St := { st with log := e :: st.log, times := st.clock :: st.times }

/-- a Retrier grants a re-run of state `name` after `d` seconds: the retry event is published and arrives at once (the
step that took it ends), the interval passes -/
def St.retryAfter (st : St) (name : Str) (d : Rat) : St := ((st.handover name).closeKeep).after d

@[simp] theorem St.retryAfter_log (st : St) (n : Str) (d : Rat) : (st.retryAfter n d).log = st.log := by
  simp only [St.retryAfter, St.after, St.waitUntil, St.closeKeep_log, St.handover_log]
@[simp] theorem St.retryAfter_times (st : St) (n : Str) (d : Rat) : (st.retryAfter n d).times = st.times := by
  simp only [St.retryAfter, St.after, St.waitUntil, St.closeKeep_times, St.handover_times]
@[simp] theorem St.retryAfter_trace (st : St) (n : Str) (d : Rat) : (st.retryAfter n d).trace = st.trace := by
  simp only [St.retryAfter, St.after, St.waitUntil, St.closeKeep_trace, St.handover_trace]
@[simp] theorem St.retryAfter_counts (st : St) (n : Str) (d : Rat) : (st.retryAfter n d).counts = st.counts := by
  simp only [St.retryAfter, St.after, St.waitUntil, St.closeKeep_counts, St.handover_counts]
@[simp] theorem St.retryAfter_clock (st : St) (n : Str) (d : Rat) : (st.retryAfter n d).clock = (st.after d).clock := by
  simp only [St.retryAfter, St.after, St.waitUntil, St.closeKeep_clock, St.handover_clock]
@[simp] theorem St.retryAfter_multiFail (st : St) (n : Str) (d : Rat) : (st.retryAfter n d).multiFail = st.multiFail := by
  simp only [St.retryAfter, St.after, St.waitUntil, St.closeKeep_multiFail, St.handover_multiFail]
@[simp] theorem St.retryAfter_tieFail (st : St) (n : Str) (d : Rat) : (st.retryAfter n d).tieFail = st.tieFail := by
  simp only [St.retryAfter, St.after, St.waitUntil, St.closeKeep_tieFail, St.handover_tieFail]
@[simp] theorem St.retryAfter_fanFail (st : St) (n : Str) (d : Rat) : (st.retryAfter n d).fanFail = st.fanFail := by
  simp only [St.retryAfter, St.after, St.waitUntil, St.closeKeep_fanFail, St.handover_fanFail]

/-- `notify` entering state `name` (of type `ty`) with raw input `data` at retry count `retries` -/
def St.enter (st : St) (ty name : Str) (data : Json) (retries : Nat) : St :=
  if retries = 0 then
    { st with trace := name :: st.trace, log := .entered ty name data :: st.log, times := st.clock :: st.times }
  else st

/-- state `name` left with `data` -/
def St.exit (st : St) (ty name : Str) (data : Json) : St :=
  { st with log := .exited ty name data :: st.log, times := st.clock :: st.times }

inductive Res where
  | done (data : Json)
  | failed (error : Str) (cause : Option Json) (failState : Bool)
  | fuel
  | unsupported (what : Str)
  deriving Inhabited

def errName : PErr → Str
  | .intrinsic => S "States.IntrinsicFailure"
  | .resultPath => S "States.ResultPathMatchFailure"
  | .pathMatch => S "States.Runtime"
  | .paramPath => S "States.Runtime"

def fld (j : Json) (k : String) : Option Json := j.get k

def fldStr (j : Json) (k : String) : Option Str :=
  match j.get k with
  | some (.str s) => some s
  | _ => none

/-- `state.get(k, "$")` read as a path argument: absent → "$", null → none -/
def pathArg (state : Json) (k : String) : Option Str :=
  match state.get k with
  | none => some ['$']
  | some (.str s) => some s
  | some _ => none

def isTrue (o : Option Json) : Bool :=
  match o with
  | some j => j.truthy
  | none => false

/-- `evaluate_payload_template(input, ctx, state.get(k))` -/
def tmplOpt (env : Env) (input ctx : Json) (t : Option Json) : Except PErr Json :=
  match t with
  | none => .ok input
  | some .null => .ok input
  | some (.str []) => .ok input
  | some (.obj []) => .ok (.obj [])
  | some t => env.tmpl input ctx t

/-- `merge_result(data, context, result, state)` -/
def mergeResult (data ctx result state : Json) : Except PErr Json :=
  match applyResultPath data result (pathArg state "ResultPath") with
  | .error e => .error e
  | .ok out => applyPath out ctx (pathArg state "OutputPath")

def bump (counts : List ((Str × Json) × Nat)) (k : Str × Json) : Nat × List ((Str × Json) × Nat) :=
  match counts with
  | [] => (0, [(k, 1)])
  | (k', n) :: rest =>
    if k' = k then (n, (k', n + 1) :: rest)
    else let (m, rest') := bump rest k; (m, (k', n) :: rest')

inductive TaskOut where
  | ok (v : Json)
  | err (e : Str) (msg : Str)

/-- how `on_response` reads a reply: an object with a truthy `Error` is `States.TaskFailed`
(its cause is the reply's own text), otherwise a non-empty `errorType` names the error -/
def decodeReply (r : Json) : TaskOut :=
  match r with
  | .obj kvs =>
    if isTrue (objGet kvs (S "Error")) then .err (S "States.TaskFailed") (render r)
    else match objGet kvs (S "errorType") with
      | some (.str []) => .ok r
      | some (.str e) =>
        let msg := match objGet kvs (S "errorMessage") with | some (.str m) => m | _ => []
        if e = S "States.TaskFailed" then .err e (render r) else .err e msg
      | some .null => .ok r
      | some (.bool false) => .ok r
      | some (.num 0) => .ok r
      | some _ => .err (S "?") []
      | none => .ok r
  | _ => .ok r

/-- how a worker's reply reaches `on_response`: a reply whose JSON text is longer than the size limit is
replaced by the error `States.DataLimitExceeded` (`TaskDispatcher.handle_rpcmessage_response`, which
measures the text the worker sent — `json.dumps` form in the harness); otherwise `decodeReply` -/
def taskReply (maxData : Nat) (r : Json) : TaskOut :=
  if (render r).length > maxData then .err (S "States.DataLimitExceeded") (S "m") else decodeReply r

/-- the function name of `arn:aws:rpcmessage:local::function:NAME`, if the resource is one -/
def rpcFunction (arn : Str) : Option Str :=
  match arn.splitOn ':' with
  | [a, _, svc, _, _, rt, name] =>
    if a = S "arn" && svc = S "rpcmessage" && rt = S "function" && !name.isEmpty then some name else none
  | _ => none

/-- context with the current state name and retry count (what `$$.State.…` can see) -/
def ctxFor (ctx : Json) (name : Str) (retries : Nat) : Json :=
  match ctx with
  | .obj kvs =>
    let st0 : List (Str × Json) := match objGet kvs (S "State") with
      | some (.obj s) => s
      | _ => []
    let st1 := objSet st0 (S "Name") (.str name)
    let st2 := if retries = 0 then objDel st1 (S "RetryCount") else objSet st1 (S "RetryCount") (.num retries)
    .obj (objSet kvs (S "State") (.obj st2))
  | j => j

def ctxWithMapItem (ctx : Json) (i : Nat) (v : Json) : Json :=
  match ctx with
  | .obj kvs => .obj (objSet kvs (S "Map") (.obj [(S "Item", .obj [(S "Index", .num i), (S "Value", v)])]))
  | j => j

def causeOf (msg : Str) : Option Json := if msg.isEmpty then none else some (.str (S "<cause>"))

def errorOutput (e : Str) (cause : Option Json) : Json :=
  match cause with
  | some c => .obj [(S "Error", .str e), (S "Cause", c)]
  | none => .obj [(S "Error", .str e)]

def stateType (state : Json) : Str := (fldStr state "Type").getD []

def isFanOut (ty : Str) : Bool := ty = S "Parallel" || ty = S "Map"

/-- `<ty>StateFailed {}`: `handle_error` writes it for a Parallel / Map state that is caught or fails -/
def St.fanFailedIf (st : St) (state : Json) : St :=
  if isFanOut (stateType state) then st.push (.fanFailed (stateType state)) else st

/-- what `TaskDispatcher.handle_rpcmessage_response` files for a reply: an over-long reply and a reply
with a truthy `errorType` are `LambdaFunctionFailed {error, cause := errorMessage or ""}`, every other
reply is `LambdaFunctionSucceeded {output := the reply}` (an `Error` member is the state's business) -/
def replyEv (maxData : Nat) (r : Json) : Ev :=
  if (render r).length > maxData then .lambdaFailed (.str (S "States.DataLimitExceeded")) (.str [])
  else match r with
    | .obj kvs =>
      match objGet kvs (S "errorType") with
      | some e => if e.truthy then .lambdaFailed e ((objGet kvs (S "errorMessage")).getD (.str [])) else .lambdaSucceeded r
      | none => .lambdaSucceeded r
    | _ => .lambdaSucceeded r

/-- one task invocation: the request is counted and `LambdaFunctionScheduled` is filed now; at `tEnd` the
outcome's event `ev` is filed (the reply's event, or `LambdaFunctionTimedOut`) -/
def St.taskCall (st : St) (counts : List ((Str × Json) × Nat)) (resource : Str) (params : Json) (ev : Ev)
    (tEnd : Rat) : St :=
  ((({ st with counts := counts }.push (.lambdaScheduled params resource)).waitUntil tEnd).push ev)

/-- a task invocation that ends at `tEnd` by the execution's time limit alone: the request is counted and
`LambdaFunctionScheduled` is filed now; nothing is filed at `tEnd` (`send_error_callback` files
`LambdaFunctionTimedOut` only for the Task's own limit) -/
def St.taskSilent (st : St) (counts : List ((Str × Json) × Nat)) (resource : Str) (params : Json) (tEnd : Rat) : St :=
  ({ st with counts := counts }.push (.lambdaScheduled params resource)).waitUntil tEnd

/-- the deadline of a Task entered at `entered`: `TimeoutSeconds` later -/
def taskDeadline (state : Json) (entered : Rat) : Option Rat :=
  match fld state "TimeoutSeconds" with
  | some (.num n) => some (entered + (n : Rat) * 1000)
  | _ => none

/-- the Task's own deadline as `asl_state_Task_delegate` computes it: a truthy `TimeoutSecondsPath` is applied to the
state's *raw* input (not the effective one) — an integer: that many seconds after the entry; `true`: one second (a
Python bool is an int); anything else: 0 seconds, the Task times out at once; a path that matches nothing, or a value
that is no path: `States.Runtime` —, otherwise `TimeoutSeconds` (`taskDeadline`).  `HeartbeatSeconds` /
`HeartbeatSecondsPath` are not implemented by the engine (state_engine.py names them in a comment only): no
heartbeat is expected, the fields are ignored. -/
def taskOwnDeadline (state data ctx : Json) (entered : Rat) : Except PErr (Option Rat) :=
  if isTrue (fld state "TimeoutSecondsPath") then
    match fldStr state "TimeoutSecondsPath" with
    | some p =>
      match applyPath data ctx (some p) with
      | .error e => .error e
      | .ok (.num n) => .ok (some (entered + (n : Rat) * 1000))
      | .ok (.bool true) => .ok (some (entered + 1000))
      | .ok _ => .ok (some entered)
    | none => .error .pathMatch
  else .ok (taskDeadline state entered)

/-- when and how a task invocation made at `now` ends: `(instant, timed out?)`.  The reply counts if it
arrives strictly before the deadline; otherwise the Task times out at the deadline exactly.  `none`: the
worker never answers and there is no deadline. -/
def taskArrival (delay deadline : Option Rat) (now : Rat) : Option (Rat × Bool) :=
  match delay, deadline with
  | some d, none => some (now + d, false)
  | some d, some dl => if now + d < dl then some (now + d, false) else some (dl, true)
  | none, some dl => some (dl, true)
  | none, none => none

/-- the outcome of the invocation for the state -/
def taskOutcome (maxData : Nat) (reply : Json) (timedOut : Bool) : TaskOut :=
  if timedOut then .err (S "States.Timeout") (S "m") else taskReply maxData reply

def taskEv (maxData : Nat) (reply : Json) (timedOut : Bool) : Ev :=
  if timedOut then .lambdaTimedOut else replyEv maxData reply

/-- the error name the engine uses internally for "the execution ran into its time limit" (`handle_error` treats it as
unrecoverable: `unrecoverable`, AslModel/Retry.lean); it is reported as `States.Timeout` (`publicError`) -/
def execTimeoutName : Str := S "States.ExecutionTimeout"

/-- `end_execution`: "States.ExecutionTimeout" is converted back to "States.Timeout" -/
def publicError (e : Str) : Str := if e = execTimeoutName then S "States.Timeout" else e

/-- the execution's deadline `d`, if it is not after the instant `t` (something that would go on until `t` is cut at `d`;
a tie is the execution's) -/
def execCut (deadline : Option Rat) (t : Rat) : Option Rat :=
  match deadline with
  | some d => if d ≤ t then some d else none
  | none => none

/-- the execution's deadline, if a Retrier's interval that is over at `t` would not be over before it: then the
execution ends at the deadline instead of the state being re-run (`none`: the re-run starts in time, or there is no
limit — or the switch of C08-F1 is on: the code lets the interval run out whatever the limit says) -/
def Env.retryCut (env : Env) (t : Rat) : Option Rat := if env.retryPastDeadline then none else execCut env.deadline t

theorem Env.retryCut_no_deadline (env : Env) (t : Rat) (h : env.deadline = none) : env.retryCut t = none := by
  unfold Env.retryCut execCut; rw [h]; split <;> rfl

/-- the time limit in force for a task invocation made at `now`: the instant `t` it runs out, whether the Task's own
limit runs out then (`task`: `LambdaFunctionTimedOut` is filed) and whether the execution's does (`exec`: the error is
the execution's time-out, which nothing intercepts) -/
structure Limit where
  t : Rat
  task : Bool
  exec : Bool
  deriving DecidableEq, Inhabited

/-- state_engine.py, `asl_state_Task_delegate`: `t1` = time left to the execution's deadline, `t2` = to the Task's own
(entry + TimeoutSeconds), both clamped at 0; `timeout = t1 if t1 < t2 else t2`, `is_task_timeout = (timeout == t2)`
(→ `LambdaFunctionTimedOut`), and `timeout == t1` makes a `States.Timeout` the execution's.  As instants:
`own`, `exec` clamped at `now`; the earlier one is in force, a tie is both.  (A Task without `TimeoutSeconds` has none
of its own: the engine's default of 99999999 s is "never".) -/
def taskLimit (own exec : Option Rat) (now : Rat) : Option Limit :=
  match own, exec with
  | none, none => none
  | some o, none => some { t := rmax now o, task := true, exec := false }
  | none, some d => some { t := rmax now d, task := false, exec := true }
  | some o, some d =>
    if rmax now d < rmax now o then some { t := rmax now d, task := false, exec := true }
    else if rmax now o < rmax now d then some { t := rmax now o, task := true, exec := false }
    else some { t := rmax now o, task := true, exec := true }

/-- the instant (clock ms) a Wait state entered at `entered` is over: `Seconds` / `SecondsPath` after
`entered`, or the `Timestamp` / `TimestampPath` instant (a text that is no timestamp: no wait) — in the
order the engine looks at them; `.error`: a path that matches nothing, a truthy value of the wrong type -/
def waitTarget (env : Env) (state input ctx : Json) (entered : Rat) : Except PErr Rat :=
  let secs (v : Json) : Rat := match v with
    | .num n => entered + (n : Rat) * 1000
    | .bool true => entered + 1000
    | _ => entered
  let stamp (v : Json) : Rat := match v with
    | .str s => (match parseTs s with
      | some t => ((t.instant : Rat) / 1000) - env.startMs
      | none => entered)
    | _ => entered
  if isTrue (fld state "Seconds") then .ok (secs ((fld state "Seconds").getD .null))
  else if isTrue (fld state "SecondsPath") then
    match fldStr state "SecondsPath" with
    | some p => match applyPath input ctx (some p) with
      | .error e => .error e
      | .ok v => if !v.truthy then .ok entered else match v with
        | .num _ => .ok (secs v)
        | .bool _ => .ok (secs v)
        | _ => .error .pathMatch
    | none => .ok entered
  else if isTrue (fld state "Timestamp") then .ok (stamp ((fld state "Timestamp").getD .null))
  else if isTrue (fld state "TimestampPath") then
    match fldStr state "TimestampPath" with
    | some p => match applyPath input ctx (some p) with
      | .error e => .error e
      | .ok v => if !v.truthy then .ok entered else match v with
        | .str _ => .ok (stamp v)
        | _ => .error .pathMatch
    | none => .ok entered
  else .ok entered

/-- joining one branch's result `r` (it ended at `t1`) with the result `rest` of the later branches (state
`st2`; after a failure its clock is the instant of that failure).  All succeed: the clock becomes `tOk`.
A failure fails the fan-out at the instant of the *earliest* failure, and that failure is the fan-out's;
`multiFail` records that several failed (under any other schedule than the canonical one which of them is
handled first is the schedule's); two failures at the same instant: the lower index wins and `tieFail`
says that this is a tie — unless both are the execution's time-out (every branch still at work when the limit runs
out fails with it at that instant, and whichever is handled first the consequence is the same: nothing intercepts
it, nothing is filed for it).  Fuel
exhaustion of *any* branch is fuel exhaustion of the fan-out. -/
def fanCombine (r : Res) (t1 : Rat) (rest : Except Res (List Json)) (st2 : St) (tOk : Rat) :
    Except Res (List Json) × St :=
  match r, rest with
  | .done v, .ok vs => (.ok (v :: vs), st2.at tOk)
  | .done _, .error e => (.error e, st2)
  | _, .error .fuel => (.error .fuel, st2)
  | .failed e c f, .error (.failed e' c' f') =>
    if t1 < st2.clock then (.error (.failed e c f), { st2 with multiFail := true, clock := t1 })
    else if st2.clock < t1 then (.error (.failed e' c' f'), { st2 with multiFail := true })
    else (.error (.failed e c f),
      { st2 with multiFail := true, tieFail := if e = execTimeoutName ∧ e' = execTimeoutName then st2.tieFail else true })
  | other, _ => (.error other, st2.at t1)

/-- `$$.State.Name` -/
def ctxStateName (ctx : Json) : Str :=
  match ctx with
  | .obj kvs =>
    match objGet kvs (S "State") with
    | some (.obj s) => (match objGet s (S "Name") with | some (.str n) => n | _ => [])
    | _ => []
  | _ => []

/-- `MapIterationFailed` for an iteration that failed (`asl_state_collect_results` files nothing when the error is the
execution's time-out) -/
def St.iterEnd (st : St) (name : Str) (i : Nat) (r : Res) : St :=
  match r with
  | .failed e _ _ => if e = execTimeoutName then st else st.push (.iterFailed name i)
  | _ => st

def isFailed : Res → Bool
  | .failed _ _ _ => true
  | _ => false

def isErr : Except Res (List Json) → Bool
  | .error _ => true
  | .ok _ => false

mutual

/-- run the scope `states` from state `name` with raw input `data` -/
def runFrom (env : Env) : Nat → Json → Str → Json → Json → Nat → St → Res × St
  | 0, _, _, _, _, _, st => (.fuel, st)
  | fuel + 1, states, name, data, ctx, retries, st =>
    match (match states with | .obj kvs => objGet kvs name | _ => none) with
    | none => (.failed (S "States.Runtime") (some (.str (S "<cause>"))) false, st)
    | some state =>
      let ctx := ctxFor ctx name retries
      let st := (st.enter (stateType state) name data retries).visit (stateType state)
      runState env fuel states name state data ctx retries st
termination_by structural fuel => fuel

/-- leave `state`, entered with raw input `raw`, with output `data`: End → done (if the output is within
the size limit: `handle_terminal_state`), else continue at Next (the checks of `change_state`).  A refused transition (no `Next`; output text over the size limit) is
an error *of this state*: Retry / Catch work on the state's raw input — a retried state is re-run on
`raw`, a catcher's ResultPath places the Error Output into `raw` — and the retry count is kept
(Task: `on_response`; Parallel / Map: `asl_state_collect_results`, which puts the saved RetryCount back;
empty Map: `asl_state_Map_delegate`).  For Pass and Wait the engine's `handle_error` still sees the
output, which cannot be observed: those states carry no Retry / Catch, so the error is uncaught and the
data is dropped; the model is uniform and the property (C07) speaks of the original input. -/
def leave (env : Env) : Nat → Json → Str → Json → Json → Json → Json → Nat → St → Res × St
  | 0, _, _, _, _, _, _, _, st => (.fuel, st)
  | fuel + 1, states, name, state, raw, data, ctx, retries, st =>
    if isTrue (fld state "End") then
      -- `handle_terminal_state` / the join: the output of a terminal state is measured like any other
      if (render data).length > env.maxData then
        handleErr env fuel states name state raw ctx retries (S "States.DataLimitExceeded") (S "m") st
      else (.done data, st.exit (stateType state) name data)
    else match fldStr state "Next" with
      | none => handleErr env fuel states name state raw ctx retries (S "States.Runtime") (S "m") st
      | some next =>
        if (render data).length > env.maxData then
          handleErr env fuel states name state raw ctx retries (S "States.DataLimitExceeded") (S "m") st
        else runFrom env fuel states next data ctx 0 ((st.exit (stateType state) name data).handover next)
termination_by structural fuel => fuel

/-- `handle_error(state, e, msg)` with the state's raw input `data` -/
def handleErr (env : Env) : Nat → Json → Str → Json → Json → Json → Nat → Str → Str → St → Res × St
  | 0, _, _, _, _, _, _, _, _, st => (.fuel, st)
  | fuel + 1, states, name, state, data, ctx, retries, e, msg, st =>
    let rs := (listOf (fld state "Retry")).map retrierOf
    let cs := (listOf (fld state "Catch")).map catcherOf
    match decideError rs cs e retries with
    | .retry d n =>
      -- the retry event is published and arrives at once; the state's delegate runs when the interval is over —
      -- unless the execution's time limit is over by then: the execution fails at the limit (a tie is the limit's).
      -- (C08-F1: the code lets the interval run out whatever the limit says: `retryPastDeadline`.)
      match env.retryCut (st.retryAfter name d).clock with
      | some dl =>
        (.failed execTimeoutName (some (.str (S "<cause>"))) false, (((st.handover name).closeKeep).waitUntil dl).failTok)
      | none => runFrom env fuel states name data ctx n (st.retryAfter name d)
    | .caught c =>
      let out := errorOutput e (causeOf msg)
      let rp : Option Str := match c.resultPath with
        | none => some ['$']
        | some p => p
      match applyResultPath data out rp with
      | .error pe => (.failed (errName pe) (some (.str (S "<cause>"))) false, st.fanFailedIf state)
      | .ok data' =>
        -- a caught Parallel / Map state is filed as failed before the Catcher's transition is attempted; if
        -- that transition is refused the state fails after all and is filed as failed once more
        let st := st.fanFailedIf state
        match c.next with
        | none => (.failed (S "States.Runtime") (some (.str (S "<cause>"))) false, st.fanFailedIf state)
        | some next =>
          if (render data').length > env.maxData then
            (.failed (S "States.DataLimitExceeded") (some (.str (S "<cause>"))) false, st.fanFailedIf state)
          else runFrom env fuel states next data' ctx 0 ((st.exit (stateType state) name data').handover next)
    | .uncaught =>
      -- (a Parallel / Map state failing by the execution's time-out is not filed as failed)
      (.failed e (causeOf msg) false, (if e = execTimeoutName then st else st.fanFailedIf state).failTok)
termination_by structural fuel => fuel

/-- the work of one state -/
def runState (env : Env) : Nat → Json → Str → Json → Json → Json → Nat → St → Res × St
  | 0, _, _, _, _, _, _, st => (.fuel, st)
  | fuel + 1, states, name, state, data, ctx, retries, st =>
    let ty := stateType state
    let fail (pe : PErr) (st : St) : Res × St :=
      handleErr env fuel states name state data ctx retries (errName pe) (S "m") st
    if ty = S "Pass" then
      match applyPath data ctx (pathArg state "InputPath") with
      | .error pe => fail pe st
      | .ok input =>
        match tmplOpt env input ctx (fld state "Parameters") with
        | .error pe => fail pe st
        | .ok params =>
          let result := (fld state "Result").getD params
          match mergeResult data ctx result state with
          | .error pe => fail pe st
          | .ok out => leave env fuel states name state data out ctx retries st
    else if ty = S "Succeed" then
      match applyPath data ctx (pathArg state "InputPath") with
      | .error pe => fail pe st
      | .ok input =>
        match applyPath input ctx (pathArg state "OutputPath") with
        | .error pe => fail pe st
        | .ok out =>
          if (render out).length > env.maxData then
            handleErr env fuel states name state data ctx retries (S "States.DataLimitExceeded") (S "m") st
          else (.done out, st.exit (stateType state) name out)
    else if ty = S "Fail" then
      let e := (fldStr state "Error").getD (S "Unspecified")
      let c := (fld state "Cause").getD (.str (S "Unspecified"))
      (.failed e (some c) true, st)
    else if ty = S "Wait" then
      match applyPath data ctx (pathArg state "InputPath") with
      | .error pe => fail pe st
      | .ok input =>
        -- `SecondsPath` / `TimestampPath`: a value that is truthy but not a number (resp. not a string)
        -- makes the arithmetic (resp. the parser) raise: States.Runtime, like a path that matches nothing
        match waitTarget env state input ctx st.clock with
        | .error pe => fail pe st
        | .ok target =>
          -- `timeout = t1 if t1 < t2 else t2`, `elif timeout == t1`: the execution's deadline, if it is not after the
          -- instant the wait would be over, ends the execution at max(deadline, now) — nothing intercepts that
          match execCut env.deadline (rmax st.clock target) with
          | some dl =>
            handleErr env fuel states name state data ctx retries execTimeoutName (S "m") (st.closeKeep.waitUntil dl)
          | none =>
          -- the timer fires at the target instant, or at once if that is over; OutputPath is applied then
          let st := st.closeKeep.waitUntil target
          match applyPath input ctx (pathArg state "OutputPath") with
          | .error pe => fail pe st
          | .ok out => leave env fuel states name state data out ctx retries st
    else if ty = S "Choice" then
      match applyPath data ctx (pathArg state "InputPath") with
      | .error pe => fail pe st
      | .ok input =>
        let next : Option Str := match env.choose state input data ctx with
          | some n => some n
          | none => fldStr state "Default"
        match applyPath input ctx (pathArg state "OutputPath") with
        | .error pe => fail pe st
        | .ok out =>
          match next with
          | none => handleErr env fuel states name state data ctx retries (S "States.NoChoiceMatched") (S "m") st
          | some n =>
            if (render out).length > env.maxData then
              handleErr env fuel states name state data ctx retries (S "States.DataLimitExceeded") (S "m") st
            else runFrom env fuel states n out ctx 0 ((st.exit (stateType state) name out).handover n)
    else if ty = S "Task" then
      match rpcFunction ((fldStr state "Resource").getD []) with
      | none => (.unsupported (S "resource"), st)
      | some fn =>
        -- the step that took the event ends; the Task's delegate goes on from a timer
        let st := st.closeKeep
        match applyPath data ctx (pathArg state "InputPath") with
        | .error pe => fail pe st
        | .ok input =>
          match tmplOpt env input ctx (fld state "Parameters") with
          | .error pe => fail pe st
          | .ok params =>
            -- the Task's own deadline: TimeoutSecondsPath (on the raw input) or TimeoutSeconds
            match taskOwnDeadline state data ctx st.clock with
            | .error pe => fail pe st
            | .ok own =>
            let (n, counts) := bump st.counts (fn, params)
            -- the limit in force: the earlier of the Task's own deadline and the execution's
            let lim := taskLimit own env.deadline st.clock
            match taskArrival (env.delay fn params n) (lim.map (·.t)) st.clock with
            | none => (.unsupported (S "a worker that never answers a Task without TimeoutSeconds"), st)
            | some (tEnd, timedOut) =>
            -- the limit that ran out is the Task's own (`LambdaFunctionTimedOut` is filed) / the execution's
            let byTask := timedOut && (lim.map (·.task)).getD true
            let byExec := timedOut && (lim.map (·.exec)).getD false
            let st := if timedOut && !byTask then
                (st.request true).taskSilent counts ((fldStr state "Resource").getD []) params tEnd
              else (st.request timedOut).taskCall counts ((fldStr state "Resource").getD []) params
                (taskEv env.maxData (env.task fn params n) timedOut) tEnd
            match (if byExec then TaskOut.err execTimeoutName (S "m") else taskOutcome env.maxData (env.task fn params n) timedOut) with
            | .err e msg => handleErr env fuel states name state data ctx retries e msg st
            | .ok v =>
              match tmplOpt env v ctx (fld state "ResultSelector") with
              | .error pe => fail pe st
              | .ok result =>
                match mergeResult data ctx result state with
                | .error pe => fail pe st
                | .ok out => leave env fuel states name state data out ctx retries st
    else if ty = S "Parallel" then
      let st := st.closeKeep
      match applyPath data ctx (pathArg state "InputPath") with
      | .error pe => fail pe st
      | .ok input =>
        match tmplOpt env input ctx (fld state "Parameters") with
        | .error pe => fail pe st
        | .ok params =>
          let names := (listOf (fld state "Branches")).map (fun b => (fldStr b "StartAt").getD [])
          let (r, st) := runBranches env fuel (listOf (fld state "Branches")) params ctx
            (((st.push (.fanStarted ty none)).pushLevel 0).launch names)
          joinAndLeave env fuel states name state data ctx retries r (st.join (isErr r))
    else if ty = S "Map" then
      let st := st.closeKeep
      match applyPath data ctx (pathArg state "InputPath") with
      | .error pe => fail pe st
      | .ok input =>
        match applyPath input ctx (pathArg state "ItemsPath") with
        | .error pe => fail pe st
        | .ok itemsJ =>
          let items : List Json := match itemsJ with | .arr xs => xs | _ => []
          let iterator := fld state "Iterator"
          let (proc, selector) : Json × Option Json :=
            if isTrue iterator then
              (iterator.getD .null, match fld state "Parameters" with | some p => some p | none => fld state "ItemSelector")
            else
              ((fld state "ItemProcessor").getD (.obj []),
               match fld state "ItemSelector" with | some p => some p | none => fld state "Parameters")
          let st := if items.isEmpty then st else st.push (.fanStarted ty (some items.length))
          let mc : Nat := match fld state "MaxConcurrency" with | some (.num n) => n.toNat | _ => 0
          let first := List.replicate (if mc = 0 then items.length else min mc items.length) ((fldStr proc "StartAt").getD [])
          let (r, st) := runItems env fuel proc selector input items 0 mc st.clock ctx false ((st.pushLevel mc).launch first)
          joinAndLeave env fuel states name state data ctx retries r (st.join (isErr r))
    else (.failed (S "States.Runtime") (some (.str (S "<cause>"))) false, st)
termination_by structural fuel => fuel

/-- after the fan-out: failure → the fan-out state's own Retry/Catch; success → ResultSelector,
ResultPath (into the *raw* input `data`), OutputPath, then Next/End — and if that transition is refused
the fan-out state's Retry/Catch get the raw input `data` and the retry count `retries` it was entered with -/
def joinAndLeave (env : Env) : Nat → Json → Str → Json → Json → Json → Nat → Except (Res) (List Json) → St → Res × St
  | 0, _, _, _, _, _, _, _, st => (.fuel, st)
  | fuel + 1, states, name, state, data, ctx, retries, r, st =>
    match r with
    | .error (.failed e cause _) =>
      -- `if error_message:` — a branch that failed without a Cause, or with a falsy one (a Fail state with
      -- `Cause: ""`), gives an Error Output without `Cause`
      let msg : Str := if isTrue cause then S "m" else []
      -- (the execution's time-out cuts every branch at the same instant: which siblings got how far is no question then)
      handleErr env fuel states name state data ctx retries e msg { st with fanFail := st.fanFail || decide (e ≠ execTimeoutName) }
    | .error other => (other, st)
    | .ok results =>
      match tmplOpt env (.arr results) ctx (fld state "ResultSelector") with
      | .error pe => handleErr env fuel states name state data ctx retries (errName pe) (S "m") st
      | .ok result =>
        match mergeResult data ctx result state with
        | .error pe => handleErr env fuel states name state data ctx retries (errName pe) (S "m") st
        | .ok out => leave env fuel states name state data out ctx retries st
termination_by structural fuel => fuel

/-- the branches, all started at the instant the fan-out is at (`st.clock`); see `fanCombine` -/
def runBranches (env : Env) : Nat → List Json → Json → Json → St → Except Res (List Json) × St
  | 0, _, _, _, st => (.error .fuel, st)
  | _ + 1, [], _, _, st => (.ok [], st)
  | fuel + 1, b :: bs, params, ctx, st =>
    match fldStr b "StartAt", fld b "States" with
    | some start, some states =>
      let (r, st1) := runFrom env fuel states start params ctx 0 st.startBranch
      let st1 := st1.endBranch (isFailed r)
      let (rest, st2) := runBranches env fuel bs params ctx (st1.at st.clock)
      fanCombine r st1.clock rest st2 (rmax st1.clock st2.clock)
    | _, _ => (.error (.failed (S "States.Runtime") (some (.str (S "<cause>"))) false), st)
termination_by structural fuel => fuel

/-- the iterations from index `i` on.  `mc` = MaxConcurrency (0: unbounded): the iterations run in batches
of `mc`, a batch starts when the one before is complete.  The clock of `st` is the instant the current batch
started, `bend` the latest instant an iteration of it ended so far.  `bad`: an iteration before this one has
failed — the engine then launches no further batch (the failure fails the Map state at once; the event that
would re-enter it for the next batch is never published): the iterations of later batches do not run, log
nothing and make no request. -/
def runItems (env : Env) : Nat → Json → Option Json → Json → List Json → Nat → Nat → Rat → Json → Bool → St →
    Except Res (List Json) × St
  | 0, _, _, _, _, _, _, _, _, _, st => (.error .fuel, st)
  | _ + 1, _, _, _, [], _, _, bend, _, _, st => (.ok [], st.waitUntil bend)
  | fuel + 1, proc, selector, input, item :: items, i, mc, bend, ctx, bad, st =>
    -- a further batch would start here; after a failure there is none
    if mc ≠ 0 ∧ i ≠ 0 ∧ i % mc = 0 ∧ bad = true then (.ok [], st.waitUntil bend) else
    -- the first iteration of a further batch: the batch before is complete at `bend`
    let st := if mc ≠ 0 ∧ i ≠ 0 ∧ i % mc = 0 then
        (st.waitUntil bend).batch (ctxStateName ctx) (List.replicate (min mc (items.length + 1)) ((fldStr proc "StartAt").getD []))
      else st
    let paramsE : Except PErr Json :=
      if isTrue selector then tmplOpt env input (ctxWithMapItem ctx i item) selector else .ok item
    match paramsE with
    | .error pe =>
      (.error (.failed (errName pe) (some (.str (S "<cause>"))) false), { st with multiFail := true, tieFail := true })
    | .ok params =>
      match fldStr proc "StartAt", fld proc "States" with
      | some start, some states =>
        let (r, st1) := runFrom env fuel states start params ctx 0 ((st.push (.iterStarted (ctxStateName ctx) i)).startBranch)
        let (rest, st2) := runItems env fuel proc selector input items (i + 1) mc (rmax bend st1.clock) ctx (bad || isFailed r)
          (((st1.iterEnd (ctxStateName ctx) i r).endBranch (isFailed r)).at st.clock)
        fanCombine r st1.clock rest st2 st2.clock
      | _, _ => (.error (.failed (S "States.Runtime") (some (.str (S "<cause>"))) false), st)
termination_by structural fuel => fuel
end

structure Outcome where
  status : Str
  output : Option Json
  error : Option Str
  cause : Option Json
  failState : Bool
  trace : List Str
  multiFail : Bool
  tieFail : Bool
  log : List Ev          -- the events of the states, oldest first
  requests : Nat         -- task invocations
  fanFail : Bool
  /-- the complete predicted history: ExecutionStarted, the log, and the terminal event (if the run ended) -/
  history : List Ev
  /-- the status notifications: RUNNING, then the terminal status with the output / the Error Output -/
  notifications : List (Str × Json)
  /-- the instants (clock ms) of the events of `history`, in the same order -/
  times : List Rat
  /-- the instant the run ended -/
  endTime : Rat
  /-- the handler steps with their broker frames, in the order the interpreter went through the run -/
  steps : List BStep
  /-- the frames are not an exact prediction: two unlike branches were the last of a join at the same instant /
  a Task ran into its time limit (its late reply is not modelled) -/
  tieJoin : Bool
  late : Bool
  /-- the run's skeleton: the state visits in order, fan-outs with their branches (`Tok`) -/
  sk : List Tok
  /-- the run ended by the execution's time limit (reported as `States.Timeout`) -/
  execTimeout : Bool := false

/-- number of task invocations: the occurrence counts of all (function, payload) pairs -/
def St.requests (st : St) : Nat := (st.counts.map (fun kn => kn.2)).sum

/-- how a run ended, as the terminal history event and the terminal notification -/
def terminalOf (r : Res) : Option (Ev × (Str × Json)) :=
  match r with
  | .done d => some (.execSucceeded d, (S "SUCCEEDED", d))
  | .failed e c _ => some (.execFailed (publicError e) c, (S "FAILED", errorOutput (publicError e) c))
  | _ => none

/-- the frame state at the end: the terminal notification is published, then what is left is acknowledged -/
def endFS (r : Res) (st : St) : FS :=
  match r with
  | .done _ => st.fs.terminal st.clock (S "SUCCEEDED")
  | .failed _ _ _ => st.fs.terminal st.clock (S "FAILED")
  | _ => st.fs

def historyOf (input : Json) (r : Res) (st : St) : List Ev :=
  .execStarted input :: (st.log.reverse ++ (match terminalOf r with | some (e, _) => [e] | none => []))

/-- `ExecutionStarted` is at 0, the terminal event at the instant the run ended -/
def timesOf (r : Res) (st : St) : List Rat :=
  0 :: (st.times.reverse ++ (match terminalOf r with | some _ => [st.clock] | none => []))

def notificationsOf (r : Res) : List (Str × Json) :=
  (S "RUNNING", .null) :: (match terminalOf r with | some (_, n) => [n] | none => [])

/-- the outcome of a run that ended with `r` in state `st` -/
def Outcome.ofRun (input : Json) (r : Res) (st : St) : Outcome :=
  { status := match r with
      | .done _ => S "SUCCEEDED" | .failed _ _ _ => S "FAILED" | .fuel => S "FUEL" | .unsupported _ => S "UNSUPPORTED"
    output := match r with | .done d => some d | _ => none
    error := match r with | .failed e _ _ => some (publicError e) | .unsupported w => some w | _ => none
    execTimeout := match r with | .failed e _ _ => e = execTimeoutName | _ => false
    cause := match r with | .failed _ c _ => c | _ => none
    failState := match r with | .failed _ _ f => f | _ => false
    trace := st.trace.reverse, multiFail := st.multiFail, tieFail := st.tieFail
    log := st.log.reverse, requests := st.requests, fanFail := st.fanFail
    history := historyOf input r st, notifications := notificationsOf r
    times := timesOf r st, endTime := st.clock
    steps := (endFS r st).steps.reverse, tieJoin := st.fs.tieJoin, late := st.fs.late, sk := st.fs.toks.reverse }

/-- the execution's time limit: the definition's top-level `TimeoutSeconds` (a number), as an instant on the run's clock -/
def execDeadline (asl : Json) : Option Rat :=
  match fld asl "TimeoutSeconds" with
  | some (.num n) => some ((n : Rat) * 1000)
  | _ => none

/-- the environment of a run of definition `asl`: its time limit is the definition's -/
def Env.forMachine (env : Env) (asl : Json) : Env := { env with deadline := execDeadline asl }

/-- the run of the top scope (a definition without `StartAt` / `States` is the runtime error) -/
def runCore (env : Env) (fuel : Nat) (asl input ctx : Json) : Res × St :=
  match fldStr asl "StartAt", fld asl "States" with
  | some start, some states => runFrom (env.forMachine asl) fuel states start input ctx 0 {}
  | _, _ => (.failed (S "States.Runtime") none false, {})

/-- run a whole execution of definition `asl` on `input` with context `ctx` -/
def run (env : Env) (fuel : Nat) (asl input ctx : Json) : Outcome :=
  Outcome.ofRun input (runCore env fuel asl input ctx).1 (runCore env fuel asl input ctx).2

end Asl
