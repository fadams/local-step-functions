/-
C09 — execution history is a gap-free, ordered, faithful log.
-/
import AslModel.History
import AslModel.Lite
import Proofs.Lemmas.Log
import Proofs.Lemmas.FuelMono
import Proofs.Lemmas.MapBatches
import Proofs.Lemmas.RunEqs
namespace Asl.C09
open Asl

theorem numbered_append (h : List HEvent) (k : Nat) (ts : Int) (ty nm : Str) (hn : numbered h k = true) :
    numbered (h ++ [{ id := k + h.length + 1, prev := k + h.length, ts := ts, type := ty, name := nm }]) k = true := by
  induction h generalizing k with
  | nil => simp [numbered]
  | cons e es ih =>
    simp only [numbered, Bool.and_eq_true] at hn
    simp only [List.cons_append, numbered, Bool.and_eq_true]
    refine ⟨hn.1, ?_⟩
    have := ih (k + 1) hn.2
    rwa [Nat.add_right_comm k 1 es.length] at this

/-- appending keeps the numbering 1..n with previousEventId = id − 1 -/
theorem append_numbering (h : List HEvent) (ts : Int) (ty nm : Str) (hn : numbered h 0 = true) :
    numbered (History.append h ts ty nm) 0 = true := by
  have := numbered_append h 0 ts ty nm hn
  simpa [History.append] using this

/-- hence every history built by appends alone is gap-free -/
theorem appends_numbered (evs : List (Int × Str × Str)) :
    numbered (evs.foldl (fun h e => History.append h e.1 e.2.1 e.2.2) []) 0 = true := by
  exact List.foldlRecOn evs _ (motive := fun h => numbered h 0 = true) rfl fun h hn e _ => append_numbering h _ _ _ hn

/-- what `numbered` means: event i (0-based) has id i+1 and previousEventId i -/
theorem numbered_spec (h : List HEvent) (k : Nat) (hn : numbered h k = true) (i : Nat) (hi : i < h.length) :
    h[i].id = k + i + 1 ∧ h[i].prev = k + i := by
  induction h generalizing k i with
  | nil => simp at hi
  | cons e es ih =>
    simp only [numbered, Bool.and_eq_true, beq_iff_eq] at hn
    cases i with
    | zero => exact ⟨hn.1.1, hn.1.2⟩
    | succ i =>
      have := ih (k + 1) hn.2 i (Nat.lt_of_succ_lt_succ hi)
      rwa [Nat.add_right_comm k 1 i] at this

/-- nothing is appended after the terminal event and there is only one -/
theorem terminalLast_spec (h : List HEvent) (ht : terminalLast h = true) (pre post : List HEvent) (e : HEvent)
    (he : h = pre ++ e :: post) (hterm : isTerminalType e.type = true)
    (hpre : ∀ p ∈ pre, isTerminalType p.type = false) : post = [] := by
  subst he
  induction pre with
  | nil => simpa [terminalLast, hterm] using ht
  | cons p ps ih =>
    have hp := hpre p (by simp)
    simp only [List.cons_append, terminalLast, hp] at ht
    exact ih (fun q hq => hpre q (by simp [hq])) (by simpa using ht)

/-- reverseOrder is exactly the reverse list -/
theorem reverse_is_reverse (h : List HEvent) : h.reverse.reverse = h := List.reverse_reverse h

/-! `Asl.run` records (`Outcome.history`, oldest first) every event the engine writes to the history of a
STANDARD execution of the modelled fragment (see `Ev`): `Outcome.log` are the events between
`ExecutionStarted` and the terminal event. -/

/-- whatever a run does, the log only grows: the state after running from any state is the state
before with more events in front (the log is kept most recent first) -/
theorem log_only_grows (env : Env) (fuel : Nat) (states : Json) (name : Str) (data ctx : Json) (r : Nat) (st : St) :
    ∃ evs, (runFrom env fuel states name data ctx r st).2.log = evs ++ st.log :=
  ((growsAll env fuel).runFrom states name data ctx r st).log_eq

/-- what the run of the top scope leaves in the state: the log and the trace fit, no event opens or
closes the execution, every reply has its request -/
theorem run_state_facts (env : Env) (fuel : Nat) (asl input ctx : Json) :
    enteredNames (runCore env fuel asl input ctx).2.log.reverse = (runCore env fuel asl input ctx).2.trace.reverse ∧
    (∀ e ∈ (runCore env fuel asl input ctx).2.log.reverse, e.isExec = false) ∧
    bracketed (runCore env fuel asl input ctx).2.log = true := by
  have L := runCore_log env fuel asl input ctx
  exact ⟨by rw [enteredNames_reverse, L.trace], fun e he => L.noExec e (List.mem_reverse.mp he), L.bracketed⟩

/-- for every machine, input, environment and fuel: the names of the `…StateEntered` events of the log
are exactly the `trace` -/
theorem entered_matches_trace (env : Env) (fuel : Nat) (asl input ctx : Json) :
    enteredNames (run env fuel asl input ctx).log = (run env fuel asl input ctx).trace :=
  (run_state_facts env fuel asl input ctx).1

section
-- otherwise `rfl` on a status decodes the literal of `S "…"`: slow
attribute [local irreducible] S

/-- (i) a run that ended: the predicted history begins with `ExecutionStarted` carrying the input, ends
with exactly one terminal event — `ExecutionSucceeded` with the output, or `ExecutionFailed` with the
error and cause, as the outcome says — and no other event of these three kinds occurs in it -/
theorem history_starts_and_ends (env : Env) (fuel : Nat) (asl input ctx : Json)
    (hs : (run env fuel asl input ctx).status = S "SUCCEEDED" ∨ (run env fuel asl input ctx).status = S "FAILED") :
    ∃ last, (run env fuel asl input ctx).history =
        .execStarted input :: ((run env fuel asl input ctx).log ++ [last]) ∧
      (∀ e ∈ (run env fuel asl input ctx).log, e.isExec = false) ∧
      (((run env fuel asl input ctx).status = S "SUCCEEDED" ∧
          ∃ d, (run env fuel asl input ctx).output = some d ∧ last = .execSucceeded d) ∨
       ((run env fuel asl input ctx).status = S "FAILED" ∧
          ∃ e, (run env fuel asl input ctx).error = some e ∧
            last = .execFailed e (run env fuel asl input ctx).cause)) := by
  have hx := (run_state_facts env fuel asl input ctx).2.1
  rcases run_ended hs with ⟨d, h⟩ | ⟨e, c, f, h⟩
  · rw [run, h]
    exact ⟨.execSucceeded d, rfl, hx, Or.inl ⟨rfl, d, rfl, rfl⟩⟩
  · rw [run, h]
    exact ⟨.execFailed (publicError e) c, rfl, hx, Or.inr ⟨rfl, publicError e, rfl, rfl⟩⟩

/-- … and a run that did not end (out of fuel, unsupported resource) has no terminal event yet -/
theorem unfinished_history_has_no_terminal_event (env : Env) (fuel : Nat) (asl input ctx : Json)
    (hs : (run env fuel asl input ctx).status = S "FUEL" ∨ (run env fuel asl input ctx).status = S "UNSUPPORTED") :
    (run env fuel asl input ctx).history = .execStarted input :: (run env fuel asl input ctx).log ∧
    (run env fuel asl input ctx).notifications = [(S "RUNNING", .null)] := by
  rcases hs.imp (Outcome.ofRun_status ..).2.2.1.mp (Outcome.ofRun_status ..).2.2.2.mp with h | ⟨w, h⟩
  all_goals
    rw [run, h]
    exact ⟨congrArg (List.cons _) (List.append_nil _), rfl⟩

/-- (ii) the history, the notifications (like the whole outcome) do not depend on the fuel -/
theorem history_fuel_independent (env : Env) (n m : Nat) (h : n ≤ m) (asl input ctx : Json)
    (hs : (run env n asl input ctx).status ≠ S "FUEL") :
    (run env m asl input ctx).history = (run env n asl input ctx).history ∧
    (run env m asl input ctx).notifications = (run env n asl input ctx).notifications ∧
    (run env m asl input ctx).log = (run env n asl input ctx).log ∧
    (run env m asl input ctx).requests = (run env n asl input ctx).requests ∧
    (run env m asl input ctx).fanFail = (run env n asl input ctx).fanFail := by
  rw [Asl.run_fuel_independent env n m h asl input ctx hs]
  exact ⟨rfl, rfl, rfl, rfl, rfl⟩

/-- (iii) one task invocation files `LambdaFunctionScheduled` with the request's payload and resource
and, directly after it, the reply's event — `LambdaFunctionSucceeded` or `LambdaFunctionFailed` -/
theorem taskCall_files_request_then_reply (st : St) (counts : List ((Str × Json) × Nat)) (res : Str) (p : Json)
    (ev : Ev) (tEnd : Rat) :
    (st.taskCall counts res p ev tEnd).log = ev :: .lambdaScheduled p res :: st.log ∧
    (st.taskCall counts res p ev tEnd).times = rmax st.clock tEnd :: st.clock :: st.times := ⟨rfl, rfl⟩

/-- … in the Task state (the worker answers, or the Task's own `TimeoutSeconds` runs out — `hT`: if the invocation
ends by a time limit, the limit in force is, or coincides with, the Task's own): the request, then directly the
outcome's event — a reply kind: `LambdaFunctionSucceeded`, `LambdaFunctionFailed` or `LambdaFunctionTimedOut` —;
whatever the state does afterwards (ResultSelector, ResultPath, transition, Retry, Catch) comes later.
(An invocation cut by the execution's time limit alone files the request and nothing else: `St.taskSilent`,
`C08.execution_timeout_exact_task`.) -/
theorem task_events_bracketed (env : Env) (fuel : Nat) (states : Json) (name fn : Str)
    (state data ctx input params : Json) (retries : Nat) (st : St) (tEnd : Rat) (timedOut : Bool)
    (h : stateType state = S "Task")
    (hr : rpcFunction ((fldStr state "Resource").getD []) = some fn)
    (hi : applyPath data ctx (pathArg state "InputPath") = .ok input)
    (hp : tmplOpt env input ctx (fld state "Parameters") = .ok params)
    (own : Option Rat) (hown : taskOwnDeadline state data ctx st.clock = .ok own)
    (ha : taskArrival (env.delay fn params (bump st.counts (fn, params)).1)
        ((taskLimit own env.deadline st.clock).map (·.t)) st.clock
      = some (tEnd, timedOut))
    (hT : timedOut = true → ∃ l, taskLimit own env.deadline st.clock = some l ∧ l.task = true) :
    (∃ later, (runState env (fuel + 1) states name state data ctx retries st).2.log =
      later ++ taskEv env.maxData (env.task fn params (bump st.counts (fn, params)).1) timedOut ::
        .lambdaScheduled params ((fldStr state "Resource").getD []) :: st.log) ∧
    (taskEv env.maxData (env.task fn params (bump st.counts (fn, params)).1) timedOut).isReply = true := by
  have G := growsAll env fuel
  refine ⟨?_, (taskEv_plain _ _ _).2.2⟩
  have hbt : (timedOut && !(timedOut && (Option.map (·.task)
      (taskLimit own env.deadline st.clock)).getD true)) = false := by
    cases timedOut with
    | false => rfl
    | true => obtain ⟨l, hl, ht⟩ := hT rfl; simp [hl, ht]
  rw [runState_task_eq h hr hi hp hown ha]
  simp only [hbt, Bool.false_eq_true, if_false]
  split
  · exact (G.handleErr ..).log_eq
  · split
    · exact (G.handleErr ..).log_eq
    · split
      · exact (G.handleErr ..).log_eq
      · exact (G.leave ..).log_eq

/-- … and in every run: each `LambdaFunctionSucceeded` / `LambdaFunctionFailed` of the log has its
`LambdaFunctionScheduled` directly before it (the log reversed is most recent first, see `bracketed_spec`) -/
theorem every_reply_has_its_request (env : Env) (fuel : Nat) (asl input ctx : Json) :
    bracketed (run env fuel asl input ctx).log.reverse = true := by
  show bracketed (runCore env fuel asl input ctx).2.log.reverse.reverse = true
  rw [List.reverse_reverse]
  exact (run_state_facts env fuel asl input ctx).2.2

/-- (iv) the status notifications of a run that ended are exactly RUNNING and the terminal status, whose
payload is the outcome: the output, or the Error Output {Error, Cause} -/
theorem notifications_shape (env : Env) (fuel : Nat) (asl input ctx : Json)
    (hs : (run env fuel asl input ctx).status = S "SUCCEEDED" ∨ (run env fuel asl input ctx).status = S "FAILED") :
    ∃ payload, (run env fuel asl input ctx).notifications =
        [(S "RUNNING", .null), ((run env fuel asl input ctx).status, payload)] ∧
      (((run env fuel asl input ctx).status = S "SUCCEEDED" ∧ (run env fuel asl input ctx).output = some payload) ∨
       ((run env fuel asl input ctx).status = S "FAILED" ∧
          ∃ e, (run env fuel asl input ctx).error = some e ∧
            payload = errorOutput e (run env fuel asl input ctx).cause)) := by
  rcases run_ended hs with ⟨d, h⟩ | ⟨e, c, f, h⟩
  · rw [run, h]
    exact ⟨d, rfl, Or.inl ⟨rfl, rfl⟩⟩
  · rw [run, h]
    exact ⟨errorOutput (publicError e) c, rfl, Or.inr ⟨rfl, publicError e, rfl, rfl⟩⟩

end

/-- a successful `leave` — End reached with an output within the limit — appends exactly one
`…StateExited` event carrying the output -/
theorem leave_logs_exit (env : Env) (fuel : Nat) (states : Json) (name : Str) (state raw out ctx : Json)
    (retries : Nat) (st : St) (hE : isTrue (fld state "End") = true) (hL : (render out).length ≤ env.maxData) :
    (leave env (fuel + 1) states name state raw out ctx retries st).2.log =
      .exited (stateType state) name out :: st.log := by
  rw [leave_end_eq hE, if_neg (Nat.not_lt.mpr hL)]
  rfl

/-- … and an accepted transition appends that one `…StateExited` event *before* anything the successor
(and everything after it) logs -/
theorem leave_logs_exit_before_successor (env : Env) (fuel : Nat) (states : Json) (name next : Str)
    (state raw out ctx : Json) (retries : Nat) (st : St)
    (hE : isTrue (fld state "End") = false) (hN : fldStr state "Next" = some next)
    (hL : (render out).length ≤ env.maxData) :
    ∃ later, (leave env (fuel + 1) states name state raw out ctx retries st).2.log =
      later ++ .exited (stateType state) name out :: st.log := by
  rw [leave_next_eq hE hN, if_neg (Nat.not_lt.mpr hL)]
  exact log_only_grows env fuel states next out ctx 0 ((st.exit (stateType state) name out).handover next)

/-- a refused transition / an over-limit terminal output logs no exit by itself: the state is handed to
its error handler with the log as it was -/
theorem refused_leave_logs_nothing (env : Env) (fuel : Nat) (states : Json) (name : Str) (state raw out ctx : Json)
    (retries : Nat) (st : St) (hL : (render out).length > env.maxData)
    (hN : isTrue (fld state "End") = true ∨ (fldStr state "Next").isSome) :
    leave env (fuel + 1) states name state raw out ctx retries st =
      handleErr env fuel states name state raw ctx retries (S "States.DataLimitExceeded") (S "m") st := by
  by_cases hE : isTrue (fld state "End") = true
  · rw [leave_end_eq hE, if_pos hL]
  · rcases hN with h | h
    · exact absurd h hE
    · obtain ⟨nx, hn⟩ := Option.isSome_iff_exists.mp h
      rw [leave_next_eq (by simpa using hE) hn, if_pos hL]

/-- a state whose error is neither retried nor caught logs no exit: a Task / Pass / … state leaves the
log exactly as it was, a Parallel / Map state files `<Type>StateFailed` and nothing else — and when the error is the
execution's time-out not even that (`handle_error` files no `…StateFailed` for it) -/
theorem failed_state_logs_no_exit (env : Env) (fuel : Nat) (states : Json) (name : Str) (state data ctx : Json)
    (retries : Nat) (e msg : Str) (st : St)
    (h : decideError ((listOf (fld state "Retry")).map retrierOf) ((listOf (fld state "Catch")).map catcherOf)
      e retries = .uncaught) :
    (handleErr env (fuel + 1) states name state data ctx retries e msg st).2 =
      (if e = execTimeoutName then st else st.fanFailedIf state).failTok ∧
    (isFanOut (stateType state) = false → st.fanFailedIf state = st) ∧
    (isFanOut (stateType state) = true → (st.fanFailedIf state).log = .fanFailed (stateType state) :: st.log) ∧
    (e = execTimeoutName → (handleErr env (fuel + 1) states name state data ctx retries e msg st).2.log = st.log) := by
  refine ⟨by rw [handleErr_uncaught_eq h], ?_, ?_, ?_⟩
  · intro hf; simp [St.fanFailedIf, hf]
  · intro hf; simp [St.fanFailedIf, hf, St.push]
  · intro he; rw [handleErr_uncaught_eq h, if_pos he]; rfl

/-- a caught state is exited (the engine files the Catcher's transition under the caught state's name)
with the data handed to the Catcher's `Next`, before anything the successor logs -/
theorem caught_state_logs_exit_with_handed_data (env : Env) (fuel : Nat) (states : Json) (name next : Str)
    (state data data' ctx : Json) (retries : Nat) (e msg : Str) (st : St) (c : Catcher)
    (h : decideError ((listOf (fld state "Retry")).map retrierOf) ((listOf (fld state "Catch")).map catcherOf)
      e retries = .caught c)
    (hn : c.next = some next)
    (hp : applyResultPath data (errorOutput e (causeOf msg)) (match c.resultPath with | none => some ['$'] | some p => p) = .ok data')
    (hl : (render data').length ≤ env.maxData) :
    ∃ later, (handleErr env (fuel + 1) states name state data ctx retries e msg st).2.log =
      later ++ .exited (stateType state) name data' :: (st.fanFailedIf state).log := by
  rw [handleErr_caught_eq h hn hp hl]
  exact log_only_grows env fuel states next data' ctx 0
    (((st.fanFailedIf state).exit (stateType state) name data').handover next)

/-- entering a state for the first time logs `…StateEntered` with its raw input; a retry re-entry logs nothing -/
theorem enter_logs_raw_input (st : St) (ty name : Str) (data : Json) :
    (st.enter ty name data 0).log = .entered ty name data :: st.log ∧
    ∀ k, (st.enter ty name data (k + 1)).log = st.log := by
  constructor
  · simp [St.enter]
  · intro k; simp [St.enter]

private def ev (i : Nat) (t : String) (n : String) : HEvent := { id := i, prev := i - 1, ts := i, type := t.toList, name := n.toList }
example : WFHistory [ev 1 "ExecutionStarted" "", ev 2 "PassStateEntered" "P", ev 3 "PassStateExited" "P",
    ev 4 "ExecutionSucceeded" ""] = true := by decide +kernel
example : WFHistory [ev 1 "ExecutionStarted" "", ev 2 "PassStateExited" "P"] = false := by decide +kernel
/-- a state entered and never exited in a clean successful execution is rejected -/
example : WFHistory [ev 1 "ExecutionStarted" "", ev 2 "PassStateEntered" "P", ev 3 "PassStateExited" "P",
    ev 4 "PassStateEntered" "Q", ev 5 "ExecutionSucceeded" ""] = false := by decide +kernel
example : WFHistory [ev 1 "ExecutionStarted" "", ev 3 "PassStateEntered" "P"] = false := by decide +kernel

/-! the history, concretely: Task `T` (retried once after an error, then caught) → `C`; limit 262144 -/
private def k (s : String) : Str := s.toList
private def rE : Json := .obj [(k "errorType", .str (k "E")), (k "errorMessage", .str (k "m"))]
private def rF : Json := .obj [(k "errorType", .str (k "F"))]
private def envL : Env :=
  { tmpl := Lite.tmpl, choose := Lite.choose, task := fun _ _ n => if n = 0 then rE else rF }
private def arnF : Str := k "arn:aws:rpcmessage:local::function:f"
private def tSt : Json := .obj [
  (k "Type", .str (k "Task")), (k "Resource", .str arnF), (k "Next", .str (k "N")),
  (k "Retry", .arr [.obj [(k "ErrorEquals", .arr [.str (k "E")]), (k "MaxAttempts", .num 1)]]),
  (k "Catch", .arr [.obj [(k "ErrorEquals", .arr [.str (k "States.ALL")]), (k "ResultPath", .null), (k "Next", .str (k "C"))]])]
private def aslL : Json := .obj [(k "StartAt", .str (k "T")), (k "States", .obj [
  (k "T", tSt), (k "N", .obj [(k "Type", .str (k "Succeed"))]),
  (k "C", .obj [(k "Type", .str (k "Pass")), (k "Result", .num 7), (k "ResultPath", .str (k "$.r")), (k "End", .bool true)])])]
private def inL : Json := .obj [(k "a", .num 1)]
private def outL : Json := .obj [(k "a", .num 1), (k "r", .num 7)]
/-- the complete history: T entered (once, although it ran twice), two requests each followed by its
failure, T exited through its Catcher with the raw input, C entered with it and exited with its output -/
example : (run envL 20 aslL inL (.obj [])).history =
    [.execStarted inL, .entered (k "Task") (k "T") inL,
     .lambdaScheduled inL arnF, .lambdaFailed (.str (k "E")) (.str (k "m")),
     .lambdaScheduled inL arnF, .lambdaFailed (.str (k "F")) (.str []),
     .exited (k "Task") (k "T") inL, .entered (k "Pass") (k "C") inL, .exited (k "Pass") (k "C") outL,
     .execSucceeded outL] ∧
    (run envL 20 aslL inL (.obj [])).notifications = [(S "RUNNING", .null), (S "SUCCEEDED", outL)] ∧
    (run envL 20 aslL inL (.obj [])).requests = 2 ∧ (run envL 20 aslL inL (.obj [])).fanFail = false ∧
    (run envL 20 aslL inL (.obj [])).trace = [k "T", k "C"] := by decide +kernel
/-- hypotheses of `history_starts_and_ends` / `notifications_shape` / `history_fuel_independent` -/
example : (run envL 20 aslL inL (.obj [])).status = S "SUCCEEDED" ∧
    (run envL 20 aslL inL (.obj [])).status ≠ S "FUEL" := by decide +kernel
/-- … and of `unfinished_history_has_no_terminal_event` -/
example : (run envL 3 aslL inL (.obj [])).status = S "FUEL" := by decide +kernel
/-- a failing Parallel: started, the Fail state entered and never exited, the Parallel filed as failed,
the execution failed with the branch's error; `fanFail` -/
private def aslF : Json := .obj [(k "StartAt", .str (k "P")), (k "States", .obj [
  (k "P", .obj [(k "Type", .str (k "Parallel")), (k "End", .bool true), (k "Branches", .arr [
    .obj [(k "StartAt", .str (k "F")), (k "States", .obj [(k "F", .obj [(k "Type", .str (k "Fail")), (k "Error", .str (k "X"))])])]])])])]
example : (run envL 20 aslF inL (.obj [])).history =
    [.execStarted inL, .entered (k "Parallel") (k "P") inL, .fanStarted (k "Parallel") none,
     .entered (k "Fail") (k "F") inL, .fanFailed (k "Parallel"),
     .execFailed (k "X") (some (.str (k "<cause>")))] ∧
    (run envL 20 aslF inL (.obj [])).notifications =
      [(S "RUNNING", .null), (S "FAILED", .obj [(S "Error", .str (k "X")), (S "Cause", .str (k "<cause>"))])] ∧
    (run envL 20 aslF inL (.obj [])).fanFail = true ∧ (run envL 20 aslF inL (.obj [])).requests = 0 := by
  decide +kernel
/-- a Map over two items: started with its length, each iteration started with its index -/
private def aslM : Json := .obj [(k "StartAt", .str (k "M")), (k "States", .obj [
  (k "M", .obj [(k "Type", .str (k "Map")), (k "End", .bool true), (k "ItemsPath", .str (k "$.xs")),
    (k "Iterator", .obj [(k "StartAt", .str (k "I")), (k "States", .obj [
      (k "I", .obj [(k "Type", .str (k "Pass")), (k "End", .bool true)])])])])])]
example : (run envL 20 aslM (.obj [(k "xs", .arr [.num 5, .num 6])]) (.obj [(k "State", .obj [])])).log =
    [.entered (k "Map") (k "M") (.obj [(k "xs", .arr [.num 5, .num 6])]), .fanStarted (k "Map") (some 2),
     .iterStarted (k "M") 0, .entered (k "Pass") (k "I") (.num 5), .exited (k "Pass") (k "I") (.num 5),
     .iterStarted (k "M") 1, .entered (k "Pass") (k "I") (.num 6), .exited (k "Pass") (k "I") (.num 6),
     .exited (k "Map") (k "M") (.arr [.num 5, .num 6])] := by decide +kernel
-- for `decide` below, declared here for the reason given in `C01.lean`
deriving instance DecidableEq for Except, Catcher, Decision
/-- hypotheses of `task_events_bracketed` on `tSt` -/
example : stateType tSt = S "Task" ∧ rpcFunction ((fldStr tSt "Resource").getD []) = some (k "f") ∧
    applyPath inL (.obj []) (pathArg tSt "InputPath") = .ok inL ∧
    tmplOpt envL inL (.obj []) (fld tSt "Parameters") = .ok inL := by decide +kernel
/-- hypotheses of `leave_logs_exit` / `leave_logs_exit_before_successor` / `failed_state_logs_no_exit` /
`caught_state_logs_exit_with_handed_data` on `tSt` and a terminal state -/
example : isTrue (fld (.obj [(k "Type", .str (k "Pass")), (k "End", .bool true)]) "End") = true ∧
    (render inL).length ≤ envL.maxData ∧
    isTrue (fld tSt "End") = false ∧ fldStr tSt "Next" = some (k "N") := by
  decide +kernel
example : decideError ((listOf (fld tSt "Retry")).map retrierOf) ((listOf (fld tSt "Catch")).map catcherOf)
    (S "States.Runtime") 0 = .uncaught := by decide +kernel
example : ∃ c, decideError ((listOf (fld tSt "Retry")).map retrierOf) ((listOf (fld tSt "Catch")).map catcherOf)
    (k "F") 1 = .caught c ∧ c.next = some (k "C") ∧ c.resultPath = some none :=
  ⟨{ errorEquals := [S "States.ALL"], next := some (k "C"), resultPath := some none }, by decide +kernel⟩
/-- `bracketed` is not constantly true: a reply without its request is rejected -/
example : bracketed [.lambdaSucceeded (.num 1), .entered (k "Task") (k "T") inL] = false ∧
    bracketed [.lambdaSucceeded (.num 1), .lambdaScheduled inL arnF] = true := by decide +kernel

/-- Map batches after a failure.  With `MaxConcurrency` mc > 0, let `done` be the items of the batches up to and
including one in which an iteration failed (complete batches: a multiple of mc items) and `rest` the items of the
later batches.  The later batches are never launched: the run over `done ++ rest` *is* the run over `done` — the
same result and the same state.  In particular no event of a later batch is logged (`log`, with its instants
`times`), no request of a later batch is counted (`requests`), and the clock and the predicted broker frames are
those of `done` alone.  For every iterator, ItemSelector, input, oracle, fuel and starting state. -/
theorem failed_batch_is_last (env : Env) (fuel : Nat) (proc : Json) (sel : Option Json) (input : Json)
    (done rest : List Json) (mc : Nat) (be : Rat) (ctx : Json) (st : St)
    (hmc : mc ≠ 0) (hlen : done.length % mc = 0)
    (hfail : isFailure (runItems env fuel proc sel input done 0 mc be ctx false st).1 = true) :
    runItems env fuel proc sel input (done ++ rest) 0 mc be ctx false st =
      runItems env fuel proc sel input done 0 mc be ctx false st ∧
    (runItems env fuel proc sel input (done ++ rest) 0 mc be ctx false st).2.log =
      (runItems env fuel proc sel input done 0 mc be ctx false st).2.log ∧
    (runItems env fuel proc sel input (done ++ rest) 0 mc be ctx false st).2.times =
      (runItems env fuel proc sel input done 0 mc be ctx false st).2.times ∧
    (runItems env fuel proc sel input (done ++ rest) 0 mc be ctx false st).2.requests =
      (runItems env fuel proc sel input done 0 mc be ctx false st).2.requests := by
  have hne : done ≠ [] := by
    rintro rfl
    cases fuel <;> cases hfail
  have h := runItems_append_after_failure env proc sel input rest mc hmc ctx done fuel 0 be false st
    (by simpa using hne) (by simpa using hlen) (.inr hfail)
  exact ⟨h, by rw [h], by rw [h], by rw [h]⟩

/-- … whatever the later items are: two item lists that agree up to the end of the failing batch run alike -/
theorem later_batches_irrelevant (env : Env) (fuel : Nat) (proc : Json) (sel : Option Json) (input : Json)
    (done rest rest' : List Json) (mc : Nat) (be : Rat) (ctx : Json) (st : St)
    (hmc : mc ≠ 0) (hlen : done.length % mc = 0)
    (hfail : isFailure (runItems env fuel proc sel input done 0 mc be ctx false st).1 = true) :
    runItems env fuel proc sel input (done ++ rest) 0 mc be ctx false st =
      runItems env fuel proc sel input (done ++ rest') 0 mc be ctx false st := by
  rw [(failed_batch_is_last env fuel proc sel input done rest mc be ctx st hmc hlen hfail).1,
    (failed_batch_is_last env fuel proc sel input done rest' mc be ctx st hmc hlen hfail).1]

/-! non-vacuity: a Map with MaxConcurrency 2 whose iterations are a Task; the worker fails on item 2 (the second of
the first batch).  Five items in three batches: two iterations are started, two requests made. -/
private def envB : Env :=
  { tmpl := Lite.tmpl, choose := Lite.choose,
    task := fun _ p _ => if p = .num 2 then .obj [(("errorType").toList, .str ("Boom").toList)] else p }
private def iterT : Json := .obj [(("StartAt").toList, .str ("T").toList), (("States").toList, .obj [(("T").toList,
  .obj [(("Type").toList, .str ("Task").toList), (("Resource").toList, .str ("arn:aws:rpcmessage:local::function:f").toList),
    (("End").toList, .bool true)])])]
example : isFailure (runItems envB 20 iterT none (.obj []) [.num 1, .num 2] 0 2 0 (.obj []) false {}).1 = true ∧
    [Json.num 1, .num 2].length % 2 = 0 := by decide +kernel
example : (runItems envB 20 iterT none (.obj []) ([.num 1, .num 2] ++ [.num 3, .num 4, .num 5]) 0 2 0 (.obj []) false {}).2.requests = 2 ∧
    ((runItems envB 20 iterT none (.obj []) ([.num 1, .num 2] ++ [.num 3, .num 4, .num 5]) 0 2 0 (.obj []) false {}).2.log.filter
      (fun e => match e with | .iterStarted _ _ => true | _ => false)).length = 2 := by decide +kernel
/-- without a failure every batch runs: five iterations, five requests -/
example : (runItems envB 30 iterT none (.obj []) [.num 1, .num 3, .num 4, .num 5, .num 6] 0 2 0 (.obj []) false {}).2.requests = 5 := by
  decide +kernel

end Asl.C09
