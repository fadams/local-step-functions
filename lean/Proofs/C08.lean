/-
C08 — waits and timeouts fire at the right instant, never early.
(The RFC 3339 theorems — parse ∘ print = id for every legal notation, and the offset law
`instant ts = instant {ts with off := 0} − 60·10⁶·off` for all offsets — are proved in
Proofs/Lemmas/Timestamp.lean and re-exported here.)
-/
import AslModel.Timers
import AslModel.Lite
import Proofs.Lemmas.Timestamp
import Proofs.Lemmas.Log
import Proofs.Lemmas.FuelMono
import Proofs.Lemmas.Deadline
import Proofs.Lemmas.RunEqs
import Proofs.Lemmas.Retry
namespace Asl.C08
open Asl

/-- every legal notation parses back to the record it prints -/
theorem parse_print_rfc3339 (t : Ts) (h : t.ok = true) : parseTs (printTs t) = some t :=
  TsLemmas.parse_print_rfc3339 t h

/-- every offset notation denotes its true instant -/
theorem instant_offset (t : Ts) :
    t.instant = ({ t with off := 0 } : Ts).instant - 60 * 10 ^ 6 * t.off := TsLemmas.instant_offset t

/-- on time: delivered before the target it fires exactly at the target; delivered late it fires at
once -/
theorem wait_on_time (target now : Int) : fireAt target now = max target now := by
  unfold fireAt clampDelay; split <;> omega

/-- never early: a wait armed at `now` for `target` fires at or after `target`, whenever its event
is delivered (late delivery, redelivery: any `now`) -/
theorem wait_not_early (target now : Int) : target ≤ fireAt target now := by
  rw [wait_on_time]
  exact Int.le_max_left ..

/-- the deadline in force is the earlier of the execution's and the state's -/
theorem deadline_is_min (e s now : Int) :
    fireAt (effectiveDeadline e s) now = min (fireAt e now) (fireAt s now) := by
  simp only [wait_on_time, effectiveDeadline]
  exact Int.max_min_distrib_right ..

/-- the execution deadline wins exactly when it comes strictly first -/
theorem exec_timeout_wins_iff (e s now : Int) :
    execTimeoutWins e s now = true ↔ clampDelay e now < clampDelay s now := by
  simp [execTimeoutWins]

def firedIds (s : TimerSt) : List Nat := s.fired.map (·.1)

theorem step_armed_ids (s : TimerSt) (op : TOp) (i : Nat) (h : ∀ x ∈ s.armed, x.id ≠ i)
    (hop : ∀ d, op ≠ .set i d) : ∀ x ∈ (s.step op).armed, x.id ≠ i := by
  intro x hx
  cases op with
  | set j d =>
    simp only [TimerSt.step, List.mem_cons, List.mem_filter] at hx
    rcases hx with rfl | ⟨hx, _⟩
    · intro hji; exact hop d (by simp at hji; rw [hji])
    · exact h x hx
  | clear j | advance t =>
    simp only [TimerSt.step, List.mem_filter] at hx
    exact h x hx.1

theorem step_fired_new (s : TimerSt) (op : TOp) (i : Nat) (h : ∀ x ∈ s.armed, x.id ≠ i) :
    (firedIds (s.step op)).count i = (firedIds s).count i := by
  cases op with
  | set j d => simp [TimerSt.step, firedIds]
  | clear j => simp [TimerSt.step, firedIds]
  | advance t =>
    simp only [TimerSt.step, firedIds, List.map_append, List.count_append]
    rw [Nat.add_eq_left, List.count_eq_zero]
    intro hm
    obtain ⟨p, hp, hpi⟩ := List.mem_map.mp hm
    obtain ⟨x, hx, rfl⟩ := List.mem_map.mp hp
    exact h x (List.mem_filter.mp hx).1 hpi

/-- a cleared (cancelled) timer never fires: after `clear i`, whatever happens next — as long as
nobody arms `i` again — the number of times `i` has fired does not change -/
theorem cleared_timer_never_fires (s : TimerSt) (i : Nat) (ops : List TOp)
    (hops : ∀ op ∈ ops, ∀ d, op ≠ .set i d) :
    (firedIds (ops.foldl TimerSt.step (s.step (.clear i)))).count i = (firedIds s).count i := by
  have hclear : ∀ x ∈ (s.step (.clear i)).armed, x.id ≠ i := by
    intro x hx
    simp only [TimerSt.step, List.mem_filter, bne_iff_ne, ne_eq] at hx
    exact hx.2
  have hf0 : (firedIds (s.step (.clear i))).count i = (firedIds s).count i := by simp [TimerSt.step, firedIds]
  exact (List.foldlRecOn ops TimerSt.step
    (motive := fun s1 => (∀ x ∈ s1.armed, x.id ≠ i) ∧ (firedIds s1).count i = (firedIds s).count i) ⟨hclear, hf0⟩
    fun s1 ⟨ha, hf⟩ op hop => ⟨step_armed_ids s1 op i ha (hops op hop), (step_fired_new s1 op i ha).trans hf⟩).2

/-- a superseded timer never fires: arming `i` again replaces the old deadline, at most one timer
per id is ever armed -/
theorem superseded_single (s : TimerSt) (i : Nat) (d : Int) :
    ((s.step (.set i d)).armed.filter (·.id == i)).length = 1 := by
  simp only [TimerSt.step, List.filter_cons, beq_self_eq_true, if_true, List.length_cons, List.filter_filter]
  -- of the timers left armed none has this id
  rw [List.filter_eq_nil_iff.mpr (by simp)]
  rfl

/-- whatever fires, fires at or after its deadline -/
theorem fires_not_early (s : TimerSt) (t : Int) (p : Nat × Int)
    (hp : p ∈ (s.step (.advance t)).fired) (hold : p ∉ s.fired) :
    ∃ x ∈ s.armed, x.id = p.1 ∧ x.deadline ≤ p.2 := by
  simp only [TimerSt.step, List.mem_append, List.mem_map, List.mem_filter] at hp
  rcases hp with h | ⟨x, ⟨hx, _⟩, rfl⟩
  · exact absurd h hold
  · exact ⟨x, hx, rfl, by simp; omega⟩

/-! ### the timed reference semantics (`St.clock`, `St.times`: milliseconds since the start event)

Handling an event takes no time; time passes while a worker works, a Wait state waits, a Retrier's interval
runs, a Task's `TimeoutSeconds` runs out; the branches of a fan-out all start at the fan-out's instant. -/

theorem rmax_of_le {a b : Rat} (h : a ≤ b) : rmax a b = b := rmax_eq_right h

theorem add_nonneg_ge (c x : Rat) (h : 0 ≤ x) : c ≤ c + x := by
  have := (Rat.add_le_add_left (c := c)).mpr h
  simpa [Rat.add_zero] using this

/-- (i) for every machine, input, oracle and fuel, from every state of every scope: the clock never goes
back, and every event a run files is stamped with an instant that is not before the clock it started
from (one instant per event: the `times` grow in step with the `log`) -/
theorem clock_monotone (env : Env) (fuel : Nat) (states : Json) (name : Str) (data ctx : Json) (r : Nat) (st : St) :
    st.clock ≤ (runFrom env fuel states name data ctx r st).2.clock ∧
    ∃ evs ts, (runFrom env fuel states name data ctx r st).2.log = evs ++ st.log ∧
      (runFrom env fuel states name data ctx r st).2.times = ts ++ st.times ∧ ts.length = evs.length ∧
      ∀ t ∈ ts, st.clock ≤ t := by
  have G := (growsAll env fuel).runFrom states name data ctx r st
  exact ⟨G.clock_le, G.instants⟩

/-- … the same for the branches of a Parallel state and the iterations of a Map state taken together -/
theorem clock_monotone_fanout (env : Env) (fuel : Nat) (bs : List Json) (params ctx : Json) (st : St)
    (proc : Json) (sel : Option Json) (input : Json) (items : List Json) (i mc : Nat) (be : Rat) (bad : Bool) :
    st.clock ≤ (runBranches env fuel bs params ctx st).2.clock ∧
    st.clock ≤ (runItems env fuel proc sel input items i mc be ctx bad st).2.clock :=
  ⟨((growsAll env fuel).runBranches bs params ctx st).clock_le,
   ((growsAll env fuel).runItems proc sel input items i mc be ctx bad st).clock_le⟩

/-- … and of the whole predicted history: every event has its instant, none is negative, and the
instant the run ended is not before the start -/
theorem history_instants (env : Env) (fuel : Nat) (asl input ctx : Json) :
    (run env fuel asl input ctx).times.length = (run env fuel asl input ctx).history.length ∧
    (∀ t ∈ (run env fuel asl input ctx).times, 0 ≤ t) ∧ 0 ≤ (run env fuel asl input ctx).endTime := by
  have L := runCore_log env fuel asl input ctx
  refine ⟨?_, forall_mem_timesOf Rat.le_refl L.nonneg L.clock, L.clock⟩
  simp only [run, Outcome.ofRun, timesOf, historyOf, List.length_cons, List.length_append, List.length_reverse, L.length]
  cases terminalOf (runCore env fuel asl input ctx).1 <;> simp

/-- (ii) a Wait state is over at its target instant — `Seconds` / `SecondsPath` after it was entered, or the
`Timestamp` / `TimestampPath` instant — and never before it: it goes on (OutputPath, then Next / End) at
max(target, the instant it was entered).  (`hD`: the execution's time limit, if there is one, is later than that
instant; otherwise see `execution_timeout_exact_wait`.) -/
theorem wait_state_not_early (env : Env) (fuel : Nat) (states : Json) (name : Str) (state data ctx input out : Json)
    (target : Rat) (retries : Nat) (st : St)
    (h : stateType state = S "Wait")
    (hi : applyPath data ctx (pathArg state "InputPath") = .ok input)
    (ht : waitTarget env state input ctx st.clock = .ok target)
    (hD : execCut env.deadline (rmax st.clock target) = none)
    (ho : applyPath input ctx (pathArg state "OutputPath") = .ok out) :
    runState env (fuel + 1) states name state data ctx retries st =
      leave env fuel states name state data out ctx retries (st.closeKeep.waitUntil target) ∧
    (st.closeKeep.waitUntil target).clock = rmax st.clock target ∧
    target ≤ (st.closeKeep.waitUntil target).clock ∧ st.clock ≤ (st.closeKeep.waitUntil target).clock := by
  exact ⟨by rw [runState_wait_eq h hi ht, hD, ho], rfl, le_rmax_right _ _, le_rmax_left _ _⟩

/-- … so the `WaitStateExited` event of a Wait state that ends its scope carries exactly that instant -/
theorem wait_exit_instant (env : Env) (fuel : Nat) (states : Json) (name : Str) (state data ctx input out : Json)
    (target : Rat) (retries : Nat) (st : St)
    (h : stateType state = S "Wait")
    (hi : applyPath data ctx (pathArg state "InputPath") = .ok input)
    (ht : waitTarget env state input ctx st.clock = .ok target)
    (hD : execCut env.deadline (rmax st.clock target) = none)
    (ho : applyPath input ctx (pathArg state "OutputPath") = .ok out)
    (hE : isTrue (fld state "End") = true) (hL : (render out).length ≤ env.maxData) :
    (runState env (fuel + 2) states name state data ctx retries st).2.log = .exited (S "Wait") name out :: st.log ∧
    (runState env (fuel + 2) states name state data ctx retries st).2.times = rmax st.clock target :: st.times := by
  rw [(wait_state_not_early env (fuel + 1) states name state data ctx input out target retries st h hi ht hD ho).1,
    leave_end_eq hE, if_neg (Nat.not_lt.mpr hL), h]
  exact ⟨rfl, rfl⟩

/-- `Seconds: n` on a Wait state entered at `t`: the target is `t + 1000 n` ms -/
theorem wait_seconds_target (env : Env) (state input ctx : Json) (entered : Rat) (n : Int)
    (hs : fld state "Seconds" = some (.num n)) (hn : n ≠ 0) :
    waitTarget env state input ctx entered = .ok (entered + (n : Rat) * 1000) := by
  have ht : isTrue (some (Json.num n)) = true := by simp [isTrue, Json.truthy, hn]
  unfold waitTarget
  rw [hs, if_pos ht]
  rfl

/-- the Task's own deadline: `TimeoutSeconds: n` (no `TimeoutSecondsPath`) is `n` seconds after the entry … -/
theorem own_deadline_seconds (state data ctx : Json) (entered : Rat) (n : Int)
    (hnp : isTrue (fld state "TimeoutSecondsPath") = false) (hT : fld state "TimeoutSeconds" = some (.num n)) :
    taskOwnDeadline state data ctx entered = .ok (some (entered + (n : Rat) * 1000)) := by
  simp [taskOwnDeadline, hnp, taskDeadline, hT]

/-- … `TimeoutSecondsPath: p` selecting the integer `n` in the state's **raw input** likewise (whatever
`TimeoutSeconds` says), `true` counts as 1, any other value as 0 seconds, and a path that matches nothing is the
runtime error -/
theorem own_deadline_path (state data ctx : Json) (entered : Rat) (p : Str) (hne : p ≠ [])
    (hP : fld state "TimeoutSecondsPath" = some (.str p)) :
    (∀ n : Int, applyPath data ctx (some p) = .ok (.num n) →
      taskOwnDeadline state data ctx entered = .ok (some (entered + (n : Rat) * 1000))) ∧
    (applyPath data ctx (some p) = .ok (.bool true) → taskOwnDeadline state data ctx entered = .ok (some (entered + 1000))) ∧
    (∀ v, applyPath data ctx (some p) = .ok v → (∀ n : Int, v ≠ .num n) → v ≠ .bool true →
      taskOwnDeadline state data ctx entered = .ok (some entered)) ∧
    (∀ e, applyPath data ctx (some p) = .error e → taskOwnDeadline state data ctx entered = .error e) := by
  have ht : isTrue (fld state "TimeoutSecondsPath") = true := by
    cases p with
    | nil => exact absurd rfl hne
    | cons c cs => simp [hP, isTrue, Json.truthy]
  have hs : fldStr state "TimeoutSecondsPath" = some p := by
    unfold fldStr; unfold fld at hP; rw [hP]
  -- (third case, the `match`'s last alternative: `simp` takes from `h1`, `h2` that the others do not apply)
  exact ⟨fun n hv => by simp [taskOwnDeadline, ht, hs, hv], fun hv => by simp [taskOwnDeadline, ht, hs, hv],
    fun v hv h1 h2 => by simp only [taskOwnDeadline, ht, if_true, hs, hv],
    fun e hv => by simp [taskOwnDeadline, ht, hs, hv]⟩

/-- (iii) a Task whose own deadline is `n` seconds after the instant this attempt was entered (`hown`: by
`TimeoutSeconds` or `TimeoutSecondsPath`, see `own_deadline_seconds` / `own_deadline_path`) and whose worker does not
answer strictly before it fails with `States.Timeout` (handed to its Retry / Catch
like any error), and `LambdaFunctionTimedOut` is filed at the deadline exactly: `n` seconds after the request.
(`hD`: the execution's time limit, if there is one, is later than the Task's deadline; the other cases:
`task_deadline_is_min`, `execution_timeout_exact_task`.) -/
theorem task_timeout_exact (env : Env) (fuel : Nat) (states : Json) (name fn : Str)
    (state data ctx input params : Json) (retries : Nat) (st : St) (n : Int)
    (h : stateType state = S "Task")
    (hr : rpcFunction ((fldStr state "Resource").getD []) = some fn)
    (hi : applyPath data ctx (pathArg state "InputPath") = .ok input)
    (hp : tmplOpt env input ctx (fld state "Parameters") = .ok params)
    (hown : taskOwnDeadline state data ctx st.clock = .ok (some (st.clock + (n : Rat) * 1000))) (hn : 0 ≤ (n : Rat) * 1000)
    (hD : ∀ dl, env.deadline = some dl → st.clock + (n : Rat) * 1000 < dl)
    (hlate : ∀ d, env.delay fn params (bump st.counts (fn, params)).1 = some d →
      ¬ st.clock + d < st.clock + (n : Rat) * 1000) :
    runState env (fuel + 1) states name state data ctx retries st =
      handleErr env fuel states name state data ctx retries (S "States.Timeout") (S "m")
        ((st.closeKeep.request true).taskCall (bump st.counts (fn, params)).2 ((fldStr state "Resource").getD []) params .lambdaTimedOut
          (st.clock + (n : Rat) * 1000)) ∧
    ((st.closeKeep.request true).taskCall (bump st.counts (fn, params)).2 ((fldStr state "Resource").getD []) params .lambdaTimedOut
        (st.clock + (n : Rat) * 1000)).times = (st.clock + (n : Rat) * 1000) :: st.clock :: st.times ∧
    ((st.closeKeep.request true).taskCall (bump st.counts (fn, params)).2 ((fldStr state "Resource").getD []) params .lambdaTimedOut
        (st.clock + (n : Rat) * 1000)).clock = st.clock + (n : Rat) * 1000 := by
  have hle := add_nonneg_ge st.clock _ hn
  have hlim := taskLimit_own hle hD
  have ha := taskArrival_late hlate
  refine ⟨by rw [runState_task_eq h hr hi hp hown (by rw [hlim]; exact ha), hlim]; rfl, ?_, ?_⟩
  all_goals simp [St.taskCall, St.push, St.waitUntil, rmax_of_le hle]

/-- … and a worker that answers strictly before the deadline (after `d` ms) is heard at `d` ms after the request -/
theorem task_reply_instant (delay deadline : Rat) (now : Rat) (h : now + delay < deadline) :
    taskArrival (some delay) (some deadline) now = some (now + delay, false) ∧
    taskArrival (some delay) none now = some (now + delay, false) := by
  simp [taskArrival, h]

/-- (iv) a retried state is re-run exactly the Retrier's delay — `IntervalSeconds × BackoffRate^k` for the k-th
retry (C07.kth_retry_delay) — after the failure (`hD`: that instant is before the execution's time limit, if there
is one: `Env.retryCut`; otherwise see `execution_timeout_exact_retry`) -/
theorem retry_delay_exact (env : Env) (fuel : Nat) (states : Json) (name : Str) (state data ctx : Json)
    (retries : Nat) (e msg : Str) (st : St) (d : Rat) (k : Nat)
    (h : decideError ((listOf (fld state "Retry")).map retrierOf) ((listOf (fld state "Catch")).map catcherOf) e retries = .retry d k)
    (hd : 0 ≤ d * 1000)
    (hD : env.retryCut (st.retryAfter name d).clock = none) :
    handleErr env (fuel + 1) states name state data ctx retries e msg st =
      runFrom env fuel states name data ctx k (st.retryAfter name d) ∧
    (st.retryAfter name d).clock = st.clock + d * 1000 ∧
    (st.retryAfter name d).log = st.log := by
  refine ⟨by rw [handleErr_retry_eq h, hD], ?_, St.retryAfter_log _ _ _⟩
  simp [St.after, St.waitUntil, rmax_of_le (add_nonneg_ge _ _ hd)]

/-- (v) the join of a fan-out all of whose branches succeed is at the latest instant a branch ended: one more
branch in front moves it to the max of that branch's end and the join of the others (which all start at the
instant the fan-out is at) -/
theorem join_time_is_max (env : Env) (fuel : Nat) (b : Json) (bs : List Json) (params ctx : Json) (st s1 s2 : St)
    (start : Str) (states v : Json) (vs : List Json)
    (hs : fldStr b "StartAt" = some start) (hst : fld b "States" = some states)
    (hr : runFrom env fuel states start params ctx 0 st.startBranch = (.done v, s1))
    (hrest : runBranches env fuel bs params ctx ((s1.endBranch false).at st.clock) = (.ok vs, s2)) :
    runBranches env (fuel + 1) (b :: bs) params ctx st = (.ok (v :: vs), s2.at (rmax s1.clock s2.clock)) ∧
    s1.clock ≤ rmax s1.clock s2.clock ∧ s2.clock ≤ rmax s1.clock s2.clock ∧ st.clock ≤ s1.clock := by
  refine ⟨runBranches_cons_ok.mpr ⟨_, _, _, _, _, _, hs, hst, hr, hrest, rfl, rfl⟩, le_rmax_left _ _, le_rmax_right _ _, ?_⟩
  have := ((growsAll env fuel).runFrom states start params ctx 0 st.startBranch).clock_le
  rw [hr] at this
  exact this

/-- … no branches: the join is at once -/
theorem join_time_no_branches (env : Env) (fuel : Nat) (params ctx : Json) (st : St) :
    runBranches env (fuel + 1) [] params ctx st = (.ok [], st) := rfl

/-- … and a fan-out one of whose branches fails, fails at the instant of the earliest failure, with that
branch's error: this branch failed at `t1`, the others at a later instant -/
theorem earliest_failure_wins (e e' : Str) (c c' : Option Json) (f f' : Bool) (t1 : Rat) (st2 : St) (tOk : Rat) :
    (t1 < st2.clock → fanCombine (.failed e c f) t1 (.error (.failed e' c' f')) st2 tOk =
      (.error (.failed e c f), { st2 with multiFail := true, clock := t1 })) ∧
    (st2.clock < t1 → fanCombine (.failed e c f) t1 (.error (.failed e' c' f')) st2 tOk =
      (.error (.failed e' c' f'), { st2 with multiFail := true })) := by
  constructor
  · intro h; simp [fanCombine, h]
  · intro h
    have : ¬ t1 < st2.clock := Rat.not_lt.mpr (Rat.le_of_lt h)
    simp [fanCombine, h, this]

/-- (vi) the instants, like the whole outcome, do not depend on the fuel -/
theorem instants_fuel_independent (env : Env) (n m : Nat) (h : n ≤ m) (asl input ctx : Json)
    (hs : (run env n asl input ctx).status ≠ S "FUEL") :
    (run env m asl input ctx).times = (run env n asl input ctx).times ∧
    (run env m asl input ctx).endTime = (run env n asl input ctx).endTime ∧
    (run env m asl input ctx).history = (run env n asl input ctx).history := by
  rw [Asl.run_fuel_independent env n m h asl input ctx hs]
  exact ⟨rfl, rfl, rfl⟩

/-! ### the execution's time limit (the machine's top-level `TimeoutSeconds`)

`Asl.run` takes the limit from the definition (`Env.forMachine`): `Env.deadline` is the instant `start +
TimeoutSeconds` on the run's clock.  A Task or Wait that would go on until that instant or beyond fails the execution
there with `States.Timeout` (internally `States.ExecutionTimeout`, which `handle_error` treats as unrecoverable);
states that take no time do not look at it.  The theorems hold for every machine, input, oracle, environment and
fuel; those about whole runs are stated for the switch of finding C08-F1 off (`Env.retryPastDeadline =
false`: a Retrier's interval is cut at the limit too), which is the property's reading; with the switch on:
`late_retry_breaks_no_event_after_deadline`. -/

/-- (vii) the time limit in force for a task invocation made at `now` is the earlier of the Task's own deadline `o`
(entry + `TimeoutSeconds`) and the execution's `d`, both not before `now`; when the execution's comes first **or at
the same instant** the time-out is the execution's (`exec`), and `LambdaFunctionTimedOut` is filed exactly when the
Task's own is not later (`task`).  With only one of the two, that one; with neither, none. -/
theorem task_deadline_is_min (o d now : Rat) :
    (∃ l, taskLimit (some o) (some d) now = some l ∧
      l.t = (if rmax now d ≤ rmax now o then rmax now d else rmax now o) ∧
      l.t ≤ rmax now d ∧ l.t ≤ rmax now o ∧
      (l.exec = true ↔ rmax now d ≤ rmax now o) ∧ (l.task = true ↔ rmax now o ≤ rmax now d)) ∧
    taskLimit (some o) none now = some { t := rmax now o, task := true, exec := false } ∧
    taskLimit none (some d) now = some { t := rmax now d, task := false, exec := true } ∧
    taskLimit none none now = none :=
  ⟨taskLimit_both o d now, rfl, rfl, rfl⟩

/-- (viii) the instant: whichever pending state runs into the execution's deadline `D` — a Wait whose end
(`max(target, now)`), a Task whose limit in force, a Retrier's interval whose end is not before `D` — entered / decided at
an instant `now ≤ D`, the instant at which it is cut is `D` exactly (the three cases below tie this to the interpreter:
`execution_timeout_exact_wait` / `_task` / `_retry`) -/
theorem execution_timeout_exact (D now : Rat) (hnow : now ≤ D) :
    (∀ t d, execCut (some D) t = some d → d = D ∧ rmax now d = D) ∧
    (∀ own l, taskLimit own (some D) now = some l → l.exec = true → l.t = D) := by
  refine ⟨fun t d h => ?_, fun own l h hx => ?_⟩
  · obtain ⟨rfl, _⟩ := execCut_some h
    exact ⟨rfl, rmax_of_le hnow⟩
  · rw [taskLimit_exec_t h hx]; exact rmax_of_le hnow

/-- (viii-a) a Wait state that would be over at or after the execution's deadline `D` (`max(target, entry) ≥ D`)
does not go on: at the instant `max(D, entry)` — `D` exactly when it was entered before — it hands the execution's
time-out to `handle_error`; nothing is filed for the state (no `WaitStateExited`) -/
theorem execution_timeout_exact_wait (env : Env) (fuel : Nat) (states : Json) (name : Str) (state data ctx input : Json)
    (target D : Rat) (retries : Nat) (st : St)
    (h : stateType state = S "Wait")
    (hi : applyPath data ctx (pathArg state "InputPath") = .ok input)
    (ht : waitTarget env state input ctx st.clock = .ok target)
    (hdl : env.deadline = some D) (hover : D ≤ rmax st.clock target) :
    runState env (fuel + 1) states name state data ctx retries st =
      handleErr env fuel states name state data ctx retries execTimeoutName (S "m") (st.closeKeep.waitUntil D) ∧
    (st.closeKeep.waitUntil D).clock = rmax st.clock D ∧
    (st.clock ≤ D → (st.closeKeep.waitUntil D).clock = D) ∧
    (st.closeKeep.waitUntil D).log = st.log := by
  have hc : execCut env.deadline (rmax st.clock target) = some D := by rw [hdl]; exact execCut_of_le hover
  exact ⟨by rw [runState_wait_eq h hi ht, hc], rfl, fun hle => rmax_of_le hle, rfl⟩

/-- (viii-b) a Task whose worker has not answered strictly before the limit in force `l`, that limit being (also) the
execution's (`l.exec`: the execution's deadline is not after the Task's own): at the instant `l.t = max(D, now)` the
execution's time-out is handed to `handle_error` — `LambdaFunctionTimedOut` is filed only if the Task's own deadline
(`own`: by `TimeoutSeconds` or `TimeoutSecondsPath`) is that same instant (`l.task`), otherwise nothing but the request is -/
theorem execution_timeout_exact_task (env : Env) (fuel : Nat) (states : Json) (name fn : Str)
    (state data ctx input params : Json) (retries : Nat) (st : St) (D : Rat) (l : Limit)
    (h : stateType state = S "Task")
    (hr : rpcFunction ((fldStr state "Resource").getD []) = some fn)
    (hi : applyPath data ctx (pathArg state "InputPath") = .ok input)
    (hp : tmplOpt env input ctx (fld state "Parameters") = .ok params)
    (hdl : env.deadline = some D)
    (own : Option Rat) (hown : taskOwnDeadline state data ctx st.clock = .ok own)
    (hl : taskLimit own (some D) st.clock = some l) (hx : l.exec = true)
    (hlate : ∀ d, env.delay fn params (bump st.counts (fn, params)).1 = some d → ¬ st.clock + d < l.t) :
    runState env (fuel + 1) states name state data ctx retries st =
      handleErr env fuel states name state data ctx retries execTimeoutName (S "m")
        (if l.task then (st.closeKeep.request true).taskCall (bump st.counts (fn, params)).2
            ((fldStr state "Resource").getD []) params .lambdaTimedOut l.t
         else (st.closeKeep.request true).taskSilent (bump st.counts (fn, params)).2
            ((fldStr state "Resource").getD []) params l.t) ∧
    l.t = rmax st.clock D ∧ (st.clock ≤ D → l.t = D) := by
  have hl' : taskLimit own env.deadline st.clock = some l := by rw [hdl]; exact hl
  have ht := taskLimit_exec_t hl hx
  refine ⟨?_, ht, fun hle => by rw [ht]; exact rmax_of_le hle⟩
  rw [runState_task_eq h hr hi hp hown (by rw [hl']; exact taskArrival_late hlate)]
  cases htask : l.task <;> simp [hl', hx, htask, taskEv]

/-- (viii-c) a Retrier grants a re-run that would start at or after the execution's deadline `D`: the state is not
re-run; the execution fails at `max(D, now)` — nothing is filed, the retry count plays no part any more -/
theorem execution_timeout_exact_retry (env : Env) (fuel : Nat) (states : Json) (name : Str) (state data ctx : Json)
    (retries : Nat) (e msg : Str) (st : St) (d : Rat) (k : Nat) (D : Rat)
    (h : decideError ((listOf (fld state "Retry")).map retrierOf) ((listOf (fld state "Catch")).map catcherOf) e retries = .retry d k)
    (hq : env.retryPastDeadline = false) (hdl : env.deadline = some D) (hover : D ≤ (st.retryAfter name d).clock) :
    handleErr env (fuel + 1) states name state data ctx retries e msg st =
      (.failed execTimeoutName (some (.str (S "<cause>"))) false, (((st.handover name).closeKeep).waitUntil D).failTok) ∧
    ((((st.handover name).closeKeep).waitUntil D).failTok).clock = rmax st.clock D ∧
    ((((st.handover name).closeKeep).waitUntil D).failTok).log = st.log := by
  have hc : env.retryCut (st.retryAfter name d).clock = some D := by
    rw [Env.retryCut_eq hq, hdl]
    exact execCut_of_le hover
  exact ⟨by rw [handleErr_retry_eq h, hc],
    by simp only [St.failTok_clock, St.waitUntil, St.closeKeep_clock, St.handover_clock],
    by simp only [St.failTok_log, St.waitUntil, St.closeKeep_log, St.handover_log]⟩

/-- (ix) the execution's time-out is not interceptable, whatever `Retry` / `Catch` the pending state has (`state` is
any state definition): `handle_error` fails the scope with it, files nothing and runs nothing else … -/
theorem execution_timeout_not_interceptable (env : Env) (fuel : Nat) (states : Json) (name : Str) (state data ctx : Json)
    (retries : Nat) (msg : Str) (st : St) :
    handleErr env (fuel + 1) states name state data ctx retries execTimeoutName msg st =
      (.failed execTimeoutName (causeOf msg) false, st.failTok) ∧
    st.failTok.log = st.log ∧ st.failTok.clock = st.clock ∧ st.failTok.counts = st.counts := by
  have hu : unrecoverable execTimeoutName = true := by simp [unrecoverable, execTimeoutName]
  exact ⟨by rw [handleErr_uncaught_eq (decideError_unrecoverable hu), if_pos rfl], rfl, rfl, rfl⟩

/-- … and whatever `Retry` / `Catch` every enclosing Parallel / Map state has (`state` is any state definition): a
fan-out one of whose branches ended with the execution's time-out fails with it in turn — no `…StateFailed`, no exit,
no retry, no Catcher's successor —, so it reaches the top of the execution through any nesting … -/
theorem execution_timeout_passes_every_fanout (env : Env) (fuel : Nat) (states : Json) (name : Str) (state data ctx : Json)
    (retries : Nat) (c : Option Json) (f : Bool) (st : St) :
    ∃ c', (joinAndLeave env (fuel + 2) states name state data ctx retries (.error (.failed execTimeoutName c f)) st).1 =
        .failed execTimeoutName c' false ∧
      (joinAndLeave env (fuel + 2) states name state data ctx retries (.error (.failed execTimeoutName c f)) st).2.log = st.log ∧
      (joinAndLeave env (fuel + 2) states name state data ctx retries (.error (.failed execTimeoutName c f)) st).2.clock = st.clock ∧
      (joinAndLeave env (fuel + 2) states name state data ctx retries (.error (.failed execTimeoutName c f)) st).2.fanFail = st.fanFail := by
  rw [joinAndLeave_failed_eq, (execution_timeout_not_interceptable env fuel states name state data ctx retries _ _).1]
  exact ⟨_, rfl, rfl, rfl, by simp⟩

/-- … where it is reported as `States.Timeout`: the run is FAILED, the terminal history event and the terminal
notification carry `States.Timeout` -/
theorem execution_timeout_reported_as_timeout (env : Env) (fuel : Nat) (asl input ctx : Json) (c : Option Json) (f : Bool)
    (h : (runCore env fuel asl input ctx).1 = .failed execTimeoutName c f) :
    (run env fuel asl input ctx).status = S "FAILED" ∧
    (run env fuel asl input ctx).error = some (S "States.Timeout") ∧
    (run env fuel asl input ctx).execTimeout = true ∧
    (run env fuel asl input ctx).history.getLast? = some (.execFailed (S "States.Timeout") c) ∧
    (run env fuel asl input ctx).notifications =
      [(S "RUNNING", .null), (S "FAILED", errorOutput (S "States.Timeout") c)] := by
  have hp : publicError execTimeoutName = S "States.Timeout" := if_pos rfl
  unfold run Outcome.ofRun
  rw [h]
  refine ⟨rfl, by simp [hp], by simp, ?_, by simp [notificationsOf, terminalOf, hp]⟩
  simp only [historyOf, terminalOf, hp]
  rw [← List.cons_append, List.getLast?_append]
  simp

/-- (x) no logged event has an instant beyond the execution's deadline, and the run does not end beyond it: from any
state whose clock is not beyond `B ≥ D`, for each of the interpreter's functions (here: a scope run from a state) -/
theorem no_event_after_deadline_from (env : Env) (fuel : Nat) (D B : Rat) (states : Json) (name : Str) (data ctx : Json)
    (r : Nat) (st : St)
    (hdl : env.deadline = some D) (hq : env.retryPastDeadline = false) (hst : st.clock ≤ B) (hB : D ≤ B) :
    (runFrom env fuel states name data ctx r st).2.clock ≤ B ∧
    ∃ ts, (runFrom env fuel states name data ctx r st).2.times = ts ++ st.times ∧ ∀ t ∈ ts, t ≤ B :=
  (capAll env D hdl hq fuel).runFrom states name data ctx r st B hst hB

/-- … and for whole runs: a machine with `TimeoutSeconds: n` (n ≥ 0) — every event of the predicted history, the
terminal one included, has an instant ≤ n s after the start, and so has the end of the run -/
theorem no_event_after_deadline (env : Env) (fuel : Nat) (asl input ctx : Json) (n : Int)
    (hT : fld asl "TimeoutSeconds" = some (.num n)) (hn : 0 ≤ (n : Rat) * 1000) (hq : env.retryPastDeadline = false) :
    (∀ t ∈ (run env fuel asl input ctx).times, t ≤ (n : Rat) * 1000) ∧
    (run env fuel asl input ctx).endTime ≤ (n : Rat) * 1000 := by
  have hdl : (env.forMachine asl).deadline = some ((n : Rat) * 1000) := by simp [Env.forMachine, execDeadline, hT]
  obtain ⟨hc, ts, hts, hg⟩ := (reach_runCore env fuel asl input ctx _ (fun _ _ ht => ht hq _ hdl)).capped hn
  have hts' : (runCore env fuel asl input ctx).2.times = ts := hts.trans (List.append_nil _)
  exact ⟨forall_mem_timesOf hn (hts' ▸ hg) hc, hc⟩

/-! non-vacuity -/
example : (TimerSt.run [.set 1 100, .set 2 50, .clear 2, .advance 60, .set 1 200, .advance 150, .advance 250]).fired
    = [(1, 200)] := by decide +kernel
example : fireAt 5000 7000 = 7000 ∧ fireAt 5000 1000 = 5000 := by decide +kernel

private def k (s : String) : Str := s.toList
private def arnF : Str := k "arn:aws:rpcmessage:local::function:f"
/-- the worker takes 1500 ms for its first answer, 10 ms afterwards -/
private def envT : Env :=
  { tmpl := Lite.tmpl, choose := Lite.choose, task := fun _ _ _ => .obj [(k "ok", .num 1)],
    delay := fun _ _ n => if n = 0 then some 1500 else some 10 }
private def inT : Json := .obj [(k "a", .num 1)]
private def waitSt (secs : Int) (next : Option String) : Json :=
  .obj ([(k "Type", .str (k "Wait")), (k "Seconds", .num secs)] ++
    (match next with | some n => [(k "Next", .str (k n))] | none => [(k "End", .bool true)]))
/-- Wait 2 s, then a Pass state: entered at 0, over at 2000 ms exactly (hypotheses of `wait_state_not_early`,
`wait_exit_instant`, `wait_seconds_target`) -/
private def aslW : Json := .obj [(k "StartAt", .str (k "W")), (k "States", .obj [
  (k "W", waitSt 2 (some "P")), (k "P", .obj [(k "Type", .str (k "Pass")), (k "End", .bool true)])])]
example : (run envT 20 aslW inT (.obj [])).times = [0, 0, 2000, 2000, 2000, 2000] ∧
    (run envT 20 aslW inT (.obj [])).endTime = 2000 ∧
    (run envT 20 aslW inT (.obj [])).history.length = 6 := by decide +kernel
example : stateType (waitSt 2 none) = S "Wait" ∧ fld (waitSt 2 none) "Seconds" = some (.num 2) ∧
    isTrue (fld (waitSt 2 none) "End") = true := by decide +kernel
/-- a Task with TimeoutSeconds 1 and a Retrier (interval 2 s): the first answer would take 1500 ms — timed out at
1000 ms exactly, re-run at 3000 ms, answered at 3010 ms (hypotheses of `task_timeout_exact`, `retry_delay_exact`,
`task_reply_instant`) -/
private def tT : Json := .obj [
  (k "Type", .str (k "Task")), (k "Resource", .str arnF), (k "TimeoutSeconds", .num 1), (k "End", .bool true),
  (k "Retry", .arr [.obj [(k "ErrorEquals", .arr [.str (k "States.Timeout")]), (k "IntervalSeconds", .num 2)]])]
private def aslT : Json := .obj [(k "StartAt", .str (k "T")), (k "States", .obj [(k "T", tT)])]
example : (run envT 20 aslT inT (.obj [])).history =
    [.execStarted inT, .entered (k "Task") (k "T") inT, .lambdaScheduled inT arnF, .lambdaTimedOut,
     .lambdaScheduled inT arnF, .lambdaSucceeded (.obj [(k "ok", .num 1)]),
     .exited (k "Task") (k "T") (.obj [(k "ok", .num 1)]), .execSucceeded (.obj [(k "ok", .num 1)])] ∧
    (run envT 20 aslT inT (.obj [])).times = [0, 0, 0, 1000, 3000, 3010, 3010, 3010] ∧
    (run envT 20 aslT inT (.obj [])).requests = 2 := by decide +kernel
example : fld tT "TimeoutSeconds" = some (.num 1) ∧ ¬ ((0 : Rat) + 1500 < 0 + (1 : Int) * 1000) ∧
    (0 : Rat) + 10 < 3000 + (1 : Int) * 1000 := by decide +kernel
-- for `decide` below, declared here for the reason given in `C01.lean`
deriving instance DecidableEq for Catcher, Decision
example : ∃ d, decideError ((listOf (fld tT "Retry")).map retrierOf) ((listOf (fld tT "Catch")).map catcherOf)
    (S "States.Timeout") 0 = .retry d 1 := ⟨2, by decide +kernel⟩
/-- a Parallel state whose branches wait 1 s and 3 s: the join is at 3000 ms (`join_time_is_max`) -/
private def br (name : String) (st : Json) : Json :=
  .obj [(k "StartAt", .str (k name)), (k "States", .obj [(k name, st)])]
private def aslP : Json := .obj [(k "StartAt", .str (k "P")), (k "States", .obj [
  (k "P", .obj [(k "Type", .str (k "Parallel")), (k "End", .bool true),
    (k "Branches", .arr [br "A" (waitSt 1 none), br "B" (waitSt 3 none)])])])]
example : (run envT 20 aslP inT (.obj [])).endTime = 3000 ∧
    (run envT 20 aslP inT (.obj [])).times = [0, 0, 0, 0, 1000, 0, 3000, 3000, 3000] := by decide +kernel
/-- … and when both branches fail, after 2 s with E1 and after 1 s with E2, the Parallel state fails at 1000 ms
with E2: the earliest failure, not the lowest index (`earliest_failure_wins`); several failed (`multiFail`) but not at
the same instant (`tieFail` is false) -/
private def failAfter (w f e : String) (secs : Int) : Json :=
  .obj [(k "StartAt", .str (k w)), (k "States", .obj [
    (k w, waitSt secs (some f)), (k f, .obj [(k "Type", .str (k "Fail")), (k "Error", .str (k e))])])]
private def aslE : Json := .obj [(k "StartAt", .str (k "P")), (k "States", .obj [
  (k "P", .obj [(k "Type", .str (k "Parallel")), (k "End", .bool true),
    (k "Branches", .arr [failAfter "W1" "F1" "E1" 2, failAfter "W2" "F2" "E2" 1])])])]
example : (run envT 20 aslE inT (.obj [])).error = some (k "E2") ∧ (run envT 20 aslE inT (.obj [])).endTime = 1000 ∧
    (run envT 20 aslE inT (.obj [])).multiFail = true ∧ (run envT 20 aslE inT (.obj [])).tieFail = false ∧
    (run envT 20 aslE inT (.obj [])).fanFail = true := by
  decide +kernel
/-- a Map over three items with MaxConcurrency 2, each iteration waiting 1 s: two batches, over at 2000 ms -/
private def aslM : Json := .obj [(k "StartAt", .str (k "M")), (k "States", .obj [
  (k "M", .obj [(k "Type", .str (k "Map")), (k "End", .bool true), (k "ItemsPath", .str (k "$.xs")),
    (k "MaxConcurrency", .num 2), (k "Iterator", br "W" (waitSt 1 none))])])]
example : (run envT 30 aslM (.obj [(k "xs", .arr [.num 5, .num 6, .num 7])]) (.obj [(k "State", .obj [])])).endTime = 2000 ∧
    (run envT 30 aslM (.obj [(k "xs", .arr [.num 5, .num 6, .num 7])]) (.obj [(k "State", .obj [])])).status = S "SUCCEEDED" := by
  decide +kernel
/-- hypothesis of `instants_fuel_independent` -/
example : (run envT 20 aslT inT (.obj [])).status ≠ S "FUEL" := by decide +kernel

private def withLimit (n : Int) (asl : Json) : Json :=
  match asl with
  | .obj kvs => .obj ((k "TimeoutSeconds", .num n) :: kvs)
  | j => j
private def catchAll (next : String) : (Str × Json) :=
  (k "Catch", .arr [.obj [(k "ErrorEquals", .arr [.str (k "States.ALL")]), (k "Next", .str (k next))]])
private def passEnd : Json := .obj [(k "Type", .str (k "Pass")), (k "End", .bool true)]
/-- a Wait of 5 s under a limit of 2 s: FAILED with States.Timeout at 2000 ms exactly, the Wait state is not exited
(hypotheses of `execution_timeout_exact_wait`, `no_event_after_deadline`, `execution_timeout_reported_as_timeout`) -/
private def aslXW : Json := withLimit 2 (.obj [(k "StartAt", .str (k "W")), (k "States", .obj [(k "W", waitSt 5 none)])])
example : (run envT 20 aslXW inT (.obj [])).history =
      [.execStarted inT, .entered (k "Wait") (k "W") inT, .execFailed (k "States.Timeout") (some (.str (k "<cause>")))] ∧
    (run envT 20 aslXW inT (.obj [])).times = [0, 0, 2000] ∧ (run envT 20 aslXW inT (.obj [])).execTimeout = true := by
  decide +kernel
example : fld aslXW "TimeoutSeconds" = some (.num 2) ∧ (0 : Rat) ≤ ((2 : Int) : Rat) * 1000 ∧ envT.retryPastDeadline = false ∧
    (envT.forMachine aslXW).deadline = some 2000 ∧ (2000 : Rat) ≤ rmax 0 5000 := by decide +kernel
-- (no `DecidableEq` for `Res`, nor for `Except PErr …` below: a Boolean `match` tests the equation)
example : (match (runCore envT 20 aslXW inT (.obj [])).1 with
    | .failed e c _ => decide (e = execTimeoutName) && decide (c = some (.str (k "<cause>")))
    | _ => false) = true := by decide +kernel
/-- a Task with `TimeoutSeconds: 2` and a Catcher for everything under a limit of 2 s (a tie): `LambdaFunctionTimedOut` is
filed at 2000 ms, and the execution FAILS there — the Catcher is not consulted (hypotheses of
`execution_timeout_exact_task` with `l.task`, `execution_timeout_not_interceptable`, `task_deadline_is_min`) -/
private def tC (n : Int) : Json := .obj [
  (k "Type", .str (k "Task")), (k "Resource", .str arnF), (k "TimeoutSeconds", .num n), (k "Next", .str (k "Z")), catchAll "Z"]
private def slowEnv : Env := { envT with delay := fun _ _ _ => some 9000 }
private def aslXT (lim tmo : Int) : Json :=
  withLimit lim (.obj [(k "StartAt", .str (k "T")), (k "States", .obj [(k "T", tC tmo), (k "Z", passEnd)])])
example : (run slowEnv 20 (aslXT 2 2) inT (.obj [])).history =
      [.execStarted inT, .entered (k "Task") (k "T") inT, .lambdaScheduled inT arnF, .lambdaTimedOut,
       .execFailed (k "States.Timeout") (some (.str (k "<cause>")))] ∧
    (run slowEnv 20 (aslXT 2 2) inT (.obj [])).times = [0, 0, 0, 2000, 2000] := by decide +kernel
example : taskLimit (taskDeadline (tC 2) 0) (some 2000) 0 = some { t := 2000, task := true, exec := true } := by decide +kernel
/-- … the execution's limit first (2 s against the Task's 3 s): no `LambdaFunctionTimedOut`, FAILED at 2000 ms -/
example : (run slowEnv 20 (aslXT 2 3) inT (.obj [])).history =
      [.execStarted inT, .entered (k "Task") (k "T") inT, .lambdaScheduled inT arnF,
       .execFailed (k "States.Timeout") (some (.str (k "<cause>")))] ∧
    (run slowEnv 20 (aslXT 2 3) inT (.obj [])).times = [0, 0, 0, 2000] := by decide +kernel
example : taskLimit (taskDeadline (tC 3) 0) (some 2000) 0 = some { t := 2000, task := false, exec := true } := by decide +kernel
/-- … the Task's own limit first (1 s against 3 s): it is the Task's time-out, the Catcher takes it and the execution
SUCCEEDS at 1000 ms (`task_timeout_exact` with its hypothesis `hD`) -/
example : (run slowEnv 20 (aslXT 3 1) inT (.obj [])).status = S "SUCCEEDED" ∧
    (run slowEnv 20 (aslXT 3 1) inT (.obj [])).endTime = 1000 := by decide +kernel
example : taskLimit (taskDeadline (tC 1) 0) (some 3000) 0 = some { t := 1000, task := true, exec := false } := by decide +kernel
/-- a Parallel state with a Catcher for everything whose branches wait 5 s and 1 s, under a limit of 2 s: the first
branch runs into the limit, the Parallel state's Catcher is not consulted, nothing is filed for the Parallel state
(hypotheses of `execution_timeout_passes_every_fanout`) -/
private def aslXP : Json := withLimit 2 (.obj [(k "StartAt", .str (k "P")), (k "States", .obj [
  (k "P", .obj [(k "Type", .str (k "Parallel")), (k "Next", .str (k "Z")), catchAll "Z",
    (k "Branches", .arr [br "A" (waitSt 5 none), br "B" (waitSt 1 none)])]), (k "Z", passEnd)])])
example : (run envT 30 aslXP inT (.obj [])).error = some (k "States.Timeout") ∧ (run envT 30 aslXP inT (.obj [])).endTime = 2000 ∧
    (run envT 30 aslXP inT (.obj [])).fanFail = false ∧ (run envT 30 aslXP inT (.obj [])).tieFail = false ∧
    (run envT 30 aslXP inT (.obj [])).log =
      [.entered (k "Parallel") (k "P") inT, .fanStarted (k "Parallel") none, .entered (k "Wait") (k "A") inT,
       .entered (k "Wait") (k "B") inT, .exited (k "Wait") (k "B") inT] := by decide +kernel
/-- a Task that fails at once and is retried after 2 s (back-off 2), under a limit of 3 s: the second re-run would start
at 6020 ms — the execution ends at 3000 ms instead (hypotheses of `execution_timeout_exact_retry`) -/
private def failEnv : Env := { envT with task := fun _ _ _ => .obj [(k "errorType", .str (k "Boom"))], delay := fun _ _ _ => some 10 }
private def tR : Json := .obj [
  (k "Type", .str (k "Task")), (k "Resource", .str arnF), (k "End", .bool true),
  (k "Retry", .arr [.obj [(k "ErrorEquals", .arr [.str (k "States.ALL")]), (k "IntervalSeconds", .num 2)]])]
private def aslXR : Json := withLimit 3 (.obj [(k "StartAt", .str (k "T")), (k "States", .obj [(k "T", tR)])])
example : (run failEnv 30 aslXR inT (.obj [])).times = [0, 0, 0, 10, 2010, 2020, 3000] ∧
    (run failEnv 30 aslXR inT (.obj [])).error = some (k "States.Timeout") := by decide +kernel

/-- C08-F1, the formal counterpart (the switch `Env.retryPastDeadline`): the same
run with the switch on goes on after the limit — a request is filed at 6020 ms and the execution ends there, 3020 ms
after its limit of 3000 ms: `no_event_after_deadline` fails with the switch on -/
theorem late_retry_breaks_no_event_after_deadline :
    (run { failEnv with retryPastDeadline := true } 30 aslXR inT (.obj [])).times = [0, 0, 0, 10, 2010, 2020, 6020, 6020] ∧
    (run { failEnv with retryPastDeadline := true } 30 aslXR inT (.obj [])).endTime = 6020 ∧
    ¬ (run { failEnv with retryPastDeadline := true } 30 aslXR inT (.obj [])).endTime ≤ 3000 ∧
    (run failEnv 30 aslXR inT (.obj [])).endTime = 3000 := by decide +kernel

/-- a Task with `TimeoutSecondsPath: "$.a"` on the raw input `{"a": 1}` (and a `TimeoutSeconds: 9` that does not count):
the worker's first answer would take 1500 ms — timed out at 1000 ms exactly (hypotheses of `own_deadline_path`,
`task_timeout_exact` through `hown`) -/
private def tPath : Json := .obj [
  (k "Type", .str (k "Task")), (k "Resource", .str arnF), (k "TimeoutSecondsPath", .str (k "$.a")), (k "TimeoutSeconds", .num 9),
  (k "End", .bool true)]
example : (run envT 20 (.obj [(k "StartAt", .str (k "T")), (k "States", .obj [(k "T", tPath)])]) inT (.obj [])).history =
      [.execStarted inT, .entered (k "Task") (k "T") inT, .lambdaScheduled inT arnF, .lambdaTimedOut,
       .execFailed (k "States.Timeout") (some (.str (k "<cause>")))] ∧
    (run envT 20 (.obj [(k "StartAt", .str (k "T")), (k "States", .obj [(k "T", tPath)])]) inT (.obj [])).times = [0, 0, 0, 1000, 1000] := by
  decide +kernel
example : fld tPath "TimeoutSecondsPath" = some (.str (k "$.a")) ∧ applyPath inT (.obj []) (some (k "$.a")) = .ok (.num 1) ∧
    (match taskOwnDeadline tPath inT (.obj []) 0 with | .ok (some t) => decide (t = 1000) | _ => false) = true :=
  ⟨by decide +kernel, by rfl, by decide +kernel⟩
/-- … a path that matches nothing is the runtime error, which no Retry / Catch intercepts -/
example : (match taskOwnDeadline tPath (.obj []) (.obj []) 0 with | .error .pathMatch => true | _ => false) = true := by
  decide +kernel
/-- `HeartbeatSeconds` is not implemented by the engine, so it is no part of the semantics: with `HeartbeatSeconds: 1`
and no `TimeoutSeconds` the worker's 1500 ms are waited for -/
private def tHb : Json := .obj [
  (k "Type", .str (k "Task")), (k "Resource", .str arnF), (k "HeartbeatSeconds", .num 1), (k "End", .bool true)]
example : (run envT 20 (.obj [(k "StartAt", .str (k "T")), (k "States", .obj [(k "T", tHb)])]) inT (.obj [])).status = S "SUCCEEDED" ∧
    (run envT 20 (.obj [(k "StartAt", .str (k "T")), (k "States", .obj [(k "T", tHb)])]) inT (.obj [])).endTime = 1500 := by
  decide +kernel

end Asl.C08
