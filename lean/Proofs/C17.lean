/- C17 — names and ARNs round-trip and link executions to their state machine. -/
import Proofs.Lemmas.Names
import Proofs.Lemmas.Quota
namespace Asl.C17
open Asl

/-- The fields of an ARN that `createArn` can write so that `parseArn` reads the same fields back:
the five leading fields hold no ':', the resource holds no '/', and either there is a non-empty
resource type free of ':' and '/' (the resource itself may then contain ':' — execution ARNs do),
or there is none and the resource holds no ':' either. -/
structure WFArn (p : Arn) : Prop where
  arn : ':' ∉ p.arn
  partition : ':' ∉ p.partition
  service : ':' ∉ p.service
  region : ':' ∉ p.region
  account : ':' ∉ p.account
  slash : '/' ∉ p.resource
  typed : (∃ t, p.resourceType = some t ∧ t ≠ [] ∧ ':' ∉ t ∧ '/' ∉ t) ∨
          (p.resourceType = none ∧ ':' ∉ p.resource)

/-- parse ∘ create = id: an ARN built from separator-free parts splits back into exactly the
parts it was built from — for all partition / service / region / account / type combinations. -/
theorem parse_create (p : Arn) (h : WFArn p) : parseArn (createArn p) = some p := by
  rw [parseArn_createArn_fields p h.arn h.partition h.service h.region h.account]
  obtain ⟨a, pa, sv, rg, ac, rt, rs⟩ := p
  rcases h.typed with ⟨t, ht, hne, htc, hts⟩ | ⟨hn, hc⟩
  · subst ht
    cases t with
    | nil => exact absurd rfl hne
    | cons c cs =>
      have := splitResource_typed (c :: cs) rs htc hts h.slash
      simp only [resourceText, this]
  · subst hn
    have := splitResource_none rs hc h.slash
    simp only [resourceText, this]

/-- create ∘ parse = id on every text without '/' whose type field is not empty: building an
ARN from the parts a text split into gives the same text. -/
theorem create_parse (s : Str) (p : Arn) (h : parseArn s = some p) (hs : '/' ∉ s)
    (ht : p.resourceType ≠ some []) : createArn p = s := by
  obtain ⟨r, rfl, ht', hr'⟩ := parseArn_some s p h
  have hr : '/' ∉ r := fun hm => hs (by simp [hm])
  -- without '/' the resource was split at its first ':', if it has one
  rw [createArn, ht', hr']
  simp only [splitResource, breakAt_none _ _ hr] at ht' ⊢
  cases hc : breakAt ':' r with
  | none => rfl
  | some tx =>
    obtain ⟨t, x⟩ := tx
    rw [hc] at ht'
    cases t with
    | nil => exact absurd ht' ht
    | cons c cs => simp only [resourceText, (breakAt_some hc).1]

/-- `create_parse` on the image of `createArn`: what a separator-free ARN splits into rebuilds it. -/
theorem create_parse_image (p q : Arn) (h : WFArn p) (hq : parseArn (createArn p) = some q) :
    createArn q = createArn p := by
  rw [parse_create p h] at hq
  cases hq
  rfl

/-- the validator's data: both characters the parser treats specially are in the refused class -/
theorem gen_forbidden_sep : ':' ∈ forbiddenNameChars ∧ '/' ∈ forbiddenNameChars := by decide

/-- what `validName` accepts, exactly: 1..80 characters, none of them in the refused class,
wherever in the name it stands -/
theorem validName_iff (s : Str) :
    validName s = true ↔ 0 < s.length ∧ s.length ≤ 80 ∧ ∀ c ∈ s, c ∉ forbiddenNameChars :=
  Quota.validName_iff s

/-- an accepted name holds neither ':' nor '/' -/
theorem validName_excludes_separators (s : Str) (h : validName s = true) : ':' ∉ s ∧ '/' ∉ s := by
  have := (validName_iff s).mp h
  exact ⟨fun hm => this.2.2 _ hm gen_forbidden_sep.1, fun hm => this.2.2 _ hm gen_forbidden_sep.2⟩

/-- names that would break the round trips are refused: ':' and '/' are the only characters
`parseArn` / `splitDerive` treat specially, and a name holding either — anywhere — is refused -/
theorem breaking_names_refused (s : Str) (h : ':' ∈ s ∨ '/' ∈ s) : validName s = false := by
  rw [Bool.eq_false_iff]
  intro hv
  obtain ⟨h1, h2⟩ := validName_excludes_separators s hv
  exact h.elim h1 h2

/-- the length window: the empty name and names of 81 or more characters are refused -/
theorem validName_length (s : Str) (h : validName s = true) : 1 ≤ s.length ∧ s.length ≤ 80 := by
  have := (validName_iff s).mp h
  exact ⟨this.1, this.2.1⟩

theorem parse_minted (region account ty sm : Str) (hr : ':' ∉ region) (ha : ':' ∉ account) (hsm : ':' ∉ sm ∧ '/' ∉ sm)
    (hty : ty ≠ [] ∧ ':' ∉ ty ∧ '/' ∉ ty) :
    parseArn (createArn ⟨sArn, sAws, sStates, region, account, some ty, sm⟩) =
      some ⟨sArn, sAws, sStates, region, account, some ty, sm⟩ :=
  parse_create _ ⟨sArn_nocolon, sAws_nocolon, sStates_nocolon, hr, ha, hsm.2, Or.inl ⟨ty, rfl, hty.1, hty.2.1, hty.2.2⟩⟩

theorem parse_minted_machine (region account sm : Str) (hr : ':' ∉ region) (ha : ':' ∉ account)
    (hsm : ':' ∉ sm ∧ '/' ∉ sm) :
    parseArn (mintStateMachineArn region account sm) =
      some ⟨sArn, sAws, sStates, region, account, some sStateMachine, sm⟩ :=
  parse_minted region account _ sm hr ha hsm (by decide)

theorem mint_shape (region account sm name : Str) (hr : ':' ∉ region) (ha : ':' ∉ account)
    (hsm : ':' ∉ sm ∧ '/' ∉ sm) :
    mintExecutionArn (mintStateMachineArn region account sm) name =
      some (createArn ⟨sArn, sAws, sStates, region, account, some sExecution, sm ++ ':' :: name⟩) := by
  rw [mintExecutionArn, parse_minted_machine region account sm hr ha hsm]

/-- splitting a minted execution ARN at its last ':' and retagging the prefix
gives back exactly the state machine ARN and the execution name it was minted from.  Needs only:
region and account without ':', machine name without ':' and '/', execution name without ':'. -/
theorem exec_to_machine (region account sm name : Str) (hr : ':' ∉ region) (ha : ':' ∉ account)
    (hsm : ':' ∉ sm ∧ '/' ∉ sm) (hn : ':' ∉ name) :
    ∃ e, mintExecutionArn (mintStateMachineArn region account sm) name = some e ∧
      splitDerive e = some (mintStateMachineArn region account sm, name) := by
  refine ⟨_, mint_shape region account sm name hr ha hsm, ?_⟩
  have hp := parse_minted region account sExecution sm hr ha hsm (by decide)
  have : createArn ⟨sArn, sAws, sStates, region, account, some sExecution, sm ++ ':' :: name⟩ =
      createArn ⟨sArn, sAws, sStates, region, account, some sExecution, sm⟩ ++ ':' :: name := by
    simp [createArn, resourceText, sExecution]
  simp only [splitDerive, this, rbreakAt_append _ _ _ hn, hp]
  rfl

theorem exec_to_machine_valid (region account sm name : Str) (hr : ':' ∉ region) (ha : ':' ∉ account)
    (hsm : validName sm = true) (hn : validName name = true) :
    ∃ e, mintExecutionArn (mintStateMachineArn region account sm) name = some e ∧
      splitDerive e = some (mintStateMachineArn region account sm, name) :=
  exec_to_machine region account sm name hr ha (validName_excludes_separators sm hsm)
    (validName_excludes_separators name hn).1

/-- every minting site (StartExecution, StartSyncExecution, `start_execution`, the child-execution
integration) mints the same ARN from the same state machine ARN and name -/
theorem mint_sites_agree (s1 s2 : MintSite) (smArn name : Str) : mint s1 smArn name = mint s2 smArn name :=
  rfl

/-- for names the API accepts, every site — record creation, RUNNING
notification, EXPRESS detail, recovery after restart, the recovered execution's terminal
notification, the timeout backstop — arrives at the same state machine ARN and execution name,
namely the ones the execution ARN was minted from, whichever site minted it. -/
theorem derivations_agree (region account sm name : Str) (hr : ':' ∉ region) (ha : ':' ∉ account)
    (hsm : validName sm = true) (hn : validName name = true) (ms : MintSite) :
    ∃ e, mint ms (mintStateMachineArn region account sm) name = some e ∧
      ∀ site : DeriveSite, derive site ⟨mintStateMachineArn region account sm, name, e⟩ =
        some (mintStateMachineArn region account sm, name) := by
  obtain ⟨e, he, hd⟩ := exec_to_machine_valid region account sm name hr ha hsm hn
  refine ⟨e, he, ?_⟩
  intro site
  cases site <;> simp [derive, hd]

/-- the `account` and `region` a notification carries are the state machine's — for every name,
accepted or not -/
theorem notification_account_region (region account sm name : Str) (hr : ':' ∉ region)
    (ha : ':' ∉ account) (hsm : ':' ∉ sm ∧ '/' ∉ sm) :
    ∃ e, mintExecutionArn (mintStateMachineArn region account sm) name = some e ∧
      notifyAccountRegion e = some (account, region) := by
  refine ⟨_, mint_shape region account sm name hr ha hsm, ?_⟩
  rw [notifyAccountRegion, parseArn_createArn_fields _ sArn_nocolon sAws_nocolon sStates_nocolon hr ha]

/-- the refusal is needed: an execution name holding ':' never re-derives to itself, whatever the
state machine ARN — so such a name, if it were accepted, would break the link -/
theorem colon_name_breaks_link (smArn name e : Str) (hc : ':' ∈ name)
    (_he : mintExecutionArn smArn name = some e) : splitDerive e ≠ some (smArn, name) := by
  fun_cases splitDerive e <;> rintro ⟨⟩
  exact (rbreakAt_some ‹_›).2 hc

/-! ### non-vacuity: concrete instances of every hypothesis set -/

def exName : Str := ['m', 'y', '-', 'e', 'x', 'e', 'c', '.', '1']
def exMachine : Str := ['m', 'y', '_', 's', 'm']
def exRegion : Str := ['l', 'o', 'c', 'a', 'l']
def exAccount : Str := ['0', '1', '2', '3']
def exExecArn : Arn := ⟨sArn, sAws, sStates, exRegion, exAccount, some sExecution, exMachine ++ ':' :: exName⟩

/-- `WFArn` holds of an execution ARN's parts (whose resource contains ':') … -/
example : WFArn exExecArn :=
  ⟨by decide, by decide, by decide, by decide, by decide, by decide,
    Or.inl ⟨sExecution, rfl, by decide, by decide, by decide⟩⟩
/-- … and of an untyped ARN -/
example : WFArn ⟨sArn, sAws, ['s', '3'], [], [], none, ['b', 'u', 'c', 'k', 'e', 't']⟩ :=
  ⟨by decide, by decide, by decide, by decide, by decide, by decide, Or.inr ⟨rfl, by decide⟩⟩
/-- `parse_create` is sharp: with '/' in the resource the round trip fails -/
example : parseArn (createArn ⟨sArn, sAws, sStates, exRegion, exAccount, some sStateMachine, ['a', '/', 'b']⟩)
    ≠ some ⟨sArn, sAws, sStates, exRegion, exAccount, some sStateMachine, ['a', '/', 'b']⟩ := by decide +kernel
/-- `create_parse`'s hypotheses are met by a real text, and its '/' hypothesis is needed -/
example : parseArn (createArn exExecArn) = some exExecArn ∧ '/' ∉ createArn exExecArn ∧
    exExecArn.resourceType ≠ some [] := by decide +kernel
example : ∃ p, parseArn "arn:aws:iam::1:role/r/x".toList = some p ∧ createArn p ≠ "arn:aws:iam::1:role/r/x".toList := by
  -- `rw`, not evaluation: `String.toList` on a literal is quadratic to evaluate
  repeat rw [String.toList_ofList]
  exact ⟨_, rfl, by decide +kernel⟩
/-- accepted names exist (with '.', '-', '_'), at both ends of the length window -/
example : validName exName = true ∧ validName exMachine = true ∧ validName ['a'] = true ∧
    validName (List.replicate 80 'a') = true ∧ validName (List.replicate 81 'a') = false ∧
    validName [] = false := by decide +kernel
/-- refused wherever the separator stands, also after a line break -/
example : validName ['a', '\n', ':', 'b'] = false ∧ validName ['a', '/'] = false ∧ validName [':'] = false := by
  decide +kernel
/-- region and account as configured / as the role ARN pattern `[0-9]+` yields them hold no ':' -/
example : ':' ∉ exRegion ∧ ':' ∉ exAccount ∧ (':' ∉ exMachine ∧ '/' ∉ exMachine) ∧ ':' ∉ exName := by decide +kernel
/-- `exec_to_machine` / `derivations_agree` on a concrete accepted pair of names -/
example : mintExecutionArn (mintStateMachineArn exRegion exAccount exMachine) exName
      = some "arn:aws:states:local:0123:execution:my_sm:my-exec.1".toList ∧
    splitDerive "arn:aws:states:local:0123:execution:my_sm:my-exec.1".toList
      = some ("arn:aws:states:local:0123:stateMachine:my_sm".toList, exName) := by
  repeat rw [String.toList_ofList]
  decide +kernel
/-- the hypotheses are needed: ':' in the execution name, '/' in the machine name break the link -/
example : splitDerive "arn:aws:states:local:0123:execution:my_sm:a:b".toList
    = some ("arn:aws:states:local:0123:stateMachine:my_sm:a".toList, ['b']) := by
  repeat rw [String.toList_ofList]
  decide +kernel
example : ∃ e, mintExecutionArn (mintStateMachineArn exRegion exAccount ['a', '/', 'b']) exName = some e ∧
    splitDerive e ≠ some (mintStateMachineArn exRegion exAccount ['a', '/', 'b'], exName) :=
  ⟨_, rfl, by decide +kernel⟩
/-- `colon_name_breaks_link`'s hypotheses are met -/
example : ':' ∈ ['a', ':', 'b'] ∧
    (mintExecutionArn (mintStateMachineArn exRegion exAccount exMachine) ['a', ':', 'b']).isSome = true := by decide +kernel

end Asl.C17
