/-
C05 — Parallel and Map joins are order-independent, complete and concurrency-bounded.
-/
import AslModel.Join
import Proofs.Lemmas.Join
import Proofs.Lemmas.MapProto
import Proofs.C01
namespace Asl.C05
open Asl

/-- Order independence.  Let `o` be the branch outputs (branch i produced `o[i]`).  For **every**
completion list σ — any order, repeated deliveries allowed — that only reports true outputs and
mentions every branch at least once, the join yields exactly `o`: branch i's output at position i. -/
theorem join_order_independent (o : List Json) (σ : List (Nat × Json))
    (hσ : ∀ p ∈ σ, o[p.1]? = some p.2)
    (hall : ∀ i, i < o.length → ∃ v, (i, v) ∈ σ) :
    Join.result (Join.feed (Join.init o.length) σ) = some o := by
  apply Join.result_of_all
  · simp [Join.feed_length]
  · intro i hi
    obtain ⟨v, hv⟩ := hall i hi
    obtain ⟨w, hw⟩ := Join.feed_fills (Join.init o.length) σ i v hv (by simpa using hi)
    have hag := Join.feed_agrees o (Join.init o.length) σ
      (by intro j w hj; simp [Join.init, List.getElem?_replicate] at hj) hσ i w hw
    rw [hw, hag]

/-- corollary: any two such completion orders give the same result -/
theorem join_any_two_orders (o : List Json) (σ τ : List (Nat × Json))
    (hσ : ∀ p ∈ σ, o[p.1]? = some p.2) (hτ : ∀ p ∈ τ, o[p.1]? = some p.2)
    (h1 : ∀ i, i < o.length → ∃ v, (i, v) ∈ σ) (h2 : ∀ i, i < o.length → ∃ v, (i, v) ∈ τ) :
    Join.result (Join.feed (Join.init o.length) σ) = Join.result (Join.feed (Join.init o.length) τ) := by
  rw [join_order_independent o σ hσ h1, join_order_independent o τ hτ h2]

/-- Completeness: while some branch has not finished there is no result — the state after the
join cannot start early. -/
theorem join_incomplete (n : Nat) (σ : List (Nat × Json)) (i : Nat) (hi : i < n)
    (hmiss : ∀ p ∈ σ, p.1 ≠ i) : Join.result (Join.feed (Join.init n) σ) = none := by
  apply Join.result_none_of_missing _ i
  apply Join.feed_untouched _ σ i _ hmiss
  simp [Join.init, hi]

/-- the batches of a Map with MaxConcurrency m > 0 partition the items: consecutive, disjoint,
covering `0..n-1`, each of size ≤ m -/
theorem batch_size_le (n m start : Nat) (hm : 0 < m) : batchEnd n m start - start ≤ m :=
  batchEnd_sub n m start hm

theorem batch_progress (n m start : Nat) (hm : 0 < m) (hs : start < n) :
    start < batchEnd n m start ∧ batchEnd n m start ≤ n :=
  ⟨batchEnd_gt n m start hm hs, (batchEnd_ge n m start (Nat.le_of_lt hs)).2⟩

/-- Concurrency bound: with MaxConcurrency m > 0, in every reachable state of the launch protocol
— for every sequence of completions whatsoever — at most m iterations are in flight. -/
theorem inflight_le_maxConcurrency (n m : Nat) (hm : 0 < m) (cs : List (Nat × Json)) :
    (cs.foldl (fun st c => st.complete c.1 c.2) (MapSt.init n m)).inFlight ≤ m := by
  have hp := MapInv.fold_params n m cs
  have := MapInv.inflight_le _ (MapInv.fold n m cs) (by rw [hp.2]; exact hm)
  rw [hp.2] at this
  exact this

/-- each Map item is launched exactly once: no index is ever launched twice, for every sequence
of completions -/
theorem map_each_item_at_most_once (n m : Nat) (cs : List (Nat × Json)) :
    (cs.foldl (fun st c => st.complete c.1 c.2) (MapSt.init n m)).launched.Nodup := by
  rw [(MapInv.fold n m cs).launched_eq]
  exact rangeFrom_nodup _ _

/-- … and only items of the array are launched -/
theorem map_launches_only_items (n m : Nat) (cs : List (Nat × Json)) :
    ∀ i ∈ (cs.foldl (fun st c => st.complete c.1 c.2) (MapSt.init n m)).launched, i < n := by
  have inv := MapInv.fold n m cs
  have hn := (MapInv.fold_params n m cs).1
  generalize cs.foldl (fun st c => st.complete c.1 c.2) (MapSt.init n m) = st at inv hn
  intro i hi
  rw [inv.launched_eq] at hi
  have := (mem_rangeFrom _ _ i).mp hi
  have hb := batchEnd_ge st.n st.m _ inv.start_le
  omega

/-- The join and the reference semantics agree: if the States Language semantics gives the branch
outputs `vs` (branch k's output at position k, C01), then feeding the engine-style join with the
completions of those branches in **any** order — with repetitions — produces exactly `vs`. -/
theorem fanout_output_order_independent (env : Env) (fuel : Nat) (bs : List Json) (params ctx : Json)
    (st st' : St) (vs : List Json) (h : runBranches env fuel bs params ctx st = (.ok vs, st'))
    (σ : List (Nat × Json)) (hσ : ∀ p ∈ σ, vs[p.1]? = some p.2)
    (hall : ∀ i, i < vs.length → ∃ v, (i, v) ∈ σ) :
    Join.result (Join.feed (Join.init bs.length) σ) = some vs := by
  have hl := (C01.parallel_results_in_branch_order env fuel bs params ctx st st' vs h).1
  rw [← hl]
  exact join_order_independent vs σ hσ hall

/-- the same for Map iterations -/
theorem map_output_order_independent (env : Env) (fuel : Nat) (proc : Json) (sel : Option Json) (input : Json)
    (items : List Json) (mc : Nat) (be : Rat) (ctx : Json) (st st' : St) (vs : List Json)
    (h : runItems env fuel proc sel input items 0 mc be ctx false st = (.ok vs, st'))
    (σ : List (Nat × Json)) (hσ : ∀ p ∈ σ, vs[p.1]? = some p.2)
    (hall : ∀ i, i < vs.length → ∃ v, (i, v) ∈ σ) :
    Join.result (Join.feed (Join.init items.length) σ) = some vs := by
  have hl := (C01.map_results_in_item_order env fuel proc sel input items 0 mc be ctx st st' vs h).1
  rw [← hl]
  exact join_order_independent vs σ hσ hall

/-! non-vacuity -/
private def o3 : List Json := [.num 10, .num 11, .num 12]
example : (∀ p ∈ [(2, Json.num 12), (0, .num 10), (2, .num 12), (1, .num 11)], o3[p.1]? = some p.2) ∧
    (∀ i, i < o3.length → ∃ v, (i, v) ∈ [(2, Json.num 12), (0, .num 10), (2, .num 12), (1, .num 11)]) := by
  constructor
  · decide +kernel
  · intro i hi
    match i, hi with
    | 0, _ => exact ⟨.num 10, by decide +kernel⟩
    | 1, _ => exact ⟨.num 11, by decide +kernel⟩
    | 2, _ => exact ⟨.num 12, by decide +kernel⟩
    | _ + 3, h => exact absurd h (Nat.not_lt.2 (Nat.le_add_left 3 _))
example : Join.result (Join.feed (Join.init 3) [(2, .num 12), (0, .num 10)]) = none := by decide +kernel
example : ((MapSt.init 5 2).complete 1 .null).inFlight = 1 ∧
    (((MapSt.init 5 2).complete 1 .null).complete 0 .null).launched = [0, 1, 2, 3] := by decide +kernel

end Asl.C05
