/-
C03 — events are acked once, after their consequences are issued; nothing leaks.
The ledger over *any* frame log, then over the frames `Asl.run` predicts (`run_end`: read off the frame state a
run ends in).
-/
import AslModel.Ledger
import Proofs.Lemmas.FramesRun
import Proofs.Lemmas.FuelMono
import Proofs.Lemmas.RunEqs
namespace Asl.C03
open Asl

def acks (t : Nat) (fs : List Fr) : Nat := fs.count (.ack t)
def delivers (t : Nat) (fs : List Fr) : Nat := fs.count (.deliver t)

/-- the counting invariant of the ledger -/
theorem ledger_count (fs : List Fr) (l : Ledger) (t : Nat) (hb : (fs.foldl Ledger.step l).bad = false) :
    (fs.foldl Ledger.step l).unacked.count t + acks t fs = l.unacked.count t + delivers t fs ∧ l.bad = false := by
  induction fs generalizing l with
  | nil => exact ⟨rfl, hb⟩
  | cons f fs ih =>
    obtain ⟨h1, h2⟩ := ih (l.step f) hb
    have hf : (l.step f).unacked.count t + acks t [f] = l.unacked.count t + delivers t [f] ∧ l.bad = false := by
      cases f with
      | deliver u => exact ⟨by simp [Ledger.step, acks, delivers, List.count_cons], h2⟩
      | ack u =>
        by_cases hu : u ∈ l.unacked
        · obtain ⟨e1, e2⟩ := Ledger.step_ack hu t
          exact ⟨by simpa [acks, delivers, List.count_cons] using e2, e1 ▸ h2⟩
        · rw [Ledger.step_ack_bad hu] at h2
          cases h2
      | pub | recw => exact ⟨rfl, h2⟩
    refine ⟨?_, hf.2⟩
    have := hf.1
    simp only [acks, delivers, List.count_cons, List.count_nil, List.foldl_cons] at h1 this ⊢
    omega

/-- acknowledged at most once: in a log the ledger accepts, a delivery tag is never acknowledged
more often than it was delivered — and tags are delivered once -/
theorem ack_at_most_once (fs : List Fr) (t : Nat) (hb : (Ledger.run fs).bad = false)
    (hd : delivers t fs ≤ 1) : acks t fs ≤ 1 := by
  have := (ledger_count fs {} t hb).1
  rw [show ({} : Ledger).unacked.count t = 0 from rfl] at this
  unfold Ledger.run at hb
  omega

/-- drained: when nothing is left unacknowledged every delivery was acknowledged exactly as often
as it was delivered (exactly once) -/
theorem drained_all_acked (fs : List Fr) (t : Nat) (hb : (Ledger.run fs).bad = false)
    (hd : (Ledger.run fs).unacked = []) : acks t fs = delivers t fs := by
  have := (ledger_count fs {} t hb).1
  unfold Ledger.run at hd
  rw [hd] at this
  simpa using this

/-- the ordering rule of one handler step, spelled out: after an acknowledgement nothing more is
published and no record is written in that step -/
theorem stepOrdered_spec (fs : List Fr) (h : stepOrdered fs = true) :
    ∀ pre a post, fs = pre ++ a :: post → isAck a = true → ∀ f ∈ post, isOut f = false := by
  intro pre a post he ha
  subst he
  induction pre with
  | nil =>
    simp only [List.nil_append, stepOrdered, ha, if_true, Bool.and_eq_true, Bool.not_eq_true'] at h
    exact fun f hf => Bool.eq_false_iff.mpr (List.any_eq_false.mp h.1 f hf)
  | cons p pre ih =>
    refine ih ?_
    simp only [List.cons_append, stepOrdered] at h
    split at h
    · exact (Bool.and_eq_true_iff.mp h).2
    · exact h

/-! non-vacuity -/
example : (Ledger.run [.deliver 1, .pub, .ack 1, .deliver 2, .pub, .recw, .ack 2]).bad = false ∧
    (Ledger.run [.deliver 1, .pub, .ack 1, .deliver 2, .pub, .recw, .ack 2]).unacked = [] := by decide +kernel
example : (Ledger.run [.deliver 1, .ack 1, .ack 1]).bad = true := by decide +kernel
example : stepOrdered [.deliver 1, .pub, .ack 1] = true ∧ stepOrdered [.deliver 1, .ack 1, .pub] = false := by decide +kernel

/-! ### the frames `Asl.run` predicts

`Asl.run` emits, for every machine, input, behaviour of the workers and fuel, the handler steps of the engine
with their broker frames (`Outcome.steps`, AslModel/Frames.lean).  What follows holds for every such run. -/

/-- the predicted frames of a run, in the order of its steps, as ledger frames -/
def predictedFrames (o : Outcome) : List Fr := (o.steps.flatMap (·.frames)).map toFr

theorem run_fs_wf (env : Env) (fuel : Nat) (asl input ctx : Json) : (runCore env fuel asl input ctx).2.fs.WF :=
  (reach_runCore_any env fuel asl input ctx).pres wfOps wf_init

theorem endFS_wf (r : Res) (st : St) (h : st.fs.WF) : (endFS r st).WF := by
  unfold endFS
  split
  · exact h.terminal _ _
  · exact h.terminal _ _
  · exact h

theorem steps_eq (env : Env) (fuel : Nat) (asl input ctx : Json) :
    (run env fuel asl input ctx).steps =
      (endFS (runCore env fuel asl input ctx).1 (runCore env fuel asl input ctx).2).steps.reverse := rfl

theorem run_end (env : Env) (fuel : Nat) (asl input ctx : Json) :
    (endFS (runCore env fuel asl input ctx).1 (runCore env fuel asl input ctx).2).WF ∧
    (endFS (runCore env fuel asl input ctx).1 (runCore env fuel asl input ctx).2).allTails = [] := by
  refine ⟨endFS_wf _ _ (run_fs_wf env fuel asl input ctx), ?_⟩
  -- the levels are as at the start: none
  obtain ⟨h1, h2⟩ := (reach_runCore_any env fuel asl input ctx).bal.2 rfl
  have : (runCore env fuel asl input ctx).2.fs.allTails = [] := by
    unfold FS.allTails
    rw [h1, h2]
    rfl
  unfold endFS
  split <;> exact this

/-- (i) every predicted step is ordered: nothing is published after an acknowledgement within a step -/
theorem predicted_steps_ordered (env : Env) (fuel : Nat) (asl input ctx : Json) :
    ∀ s ∈ (run env fuel asl input ctx).steps, stepOrdered (s.frames.map toFr) = true :=
  fun s hs => (run_end env fuel asl input ctx).1.ordered s (List.mem_reverse.mp hs)

/-- … spelled out on the predicted frames themselves: after an acknowledgement nothing more is published in that step -/
theorem predicted_nothing_published_after_ack (env : Env) (fuel : Nat) (asl input ctx : Json) :
    ∀ s ∈ (run env fuel asl input ctx).steps, ∀ pre a post, s.frames = pre ++ a :: post → a.isAck = true →
      ∀ f ∈ post, f.isPub = false := by
  intro s hs pre a post he ha f hf
  rw [← isOut_toFr]
  exact stepOrdered_spec _ (predicted_steps_ordered env fuel asl input ctx s hs) (pre.map toFr) (toFr a) (post.map toFr)
    (by rw [he, List.map_append, List.map_cons]) ((isAck_toFr a).trans ha) _ (List.mem_map_of_mem hf)

theorem count_zero_nil {l : List Nat} (h : ∀ t, l.count t = 0) : l = [] :=
  List.eq_nil_iff_forall_not_mem.mpr fun t => List.count_eq_zero.mp (h t)

theorem ended_cases (env : Env) (fuel : Nat) (asl input ctx : Json)
    (h : (run env fuel asl input ctx).status = S "SUCCEEDED" ∨ (run env fuel asl input ctx).status = S "FAILED") :
    (∃ d, (runCore env fuel asl input ctx).1 = .done d) ∨ (∃ e c f, (runCore env fuel asl input ctx).1 = .failed e c f) :=
  run_ended h

theorem predicted_ledger_sound (env : Env) (fuel : Nat) (asl input ctx : Json) :
    (Ledger.run (predictedFrames (run env fuel asl input ctx))).bad = false :=
  (run_end env fuel asl input ctx).1.sound

/-- (ii) in a run that ended (SUCCEEDED / FAILED) the ledger replayed over the predicted frames is sound — no
acknowledgement of a message that is not outstanding — and nothing is left unacknowledged -/
theorem predicted_ledger_drained (env : Env) (fuel : Nat) (asl input ctx : Json)
    (h : (run env fuel asl input ctx).status = S "SUCCEEDED" ∨ (run env fuel asl input ctx).status = S "FAILED") :
    (Ledger.run (predictedFrames (run env fuel asl input ctx))).bad = false ∧
    (Ledger.run (predictedFrames (run env fuel asl input ctx))).unacked = [] := by
  obtain ⟨hw, ht⟩ := run_end env fuel asl input ctx
  -- the terminal step has acknowledged what was left
  have ho : (endFS (runCore env fuel asl input ctx).1 (runCore env fuel asl input ctx).2).owed = [] := by
    rcases ended_cases env fuel asl input ctx h with ⟨d, hd⟩ | ⟨e, c, f, hf⟩
    · rw [hd]; rfl
    · rw [hf]; rfl
  exact ⟨predicted_ledger_sound env fuel asl input ctx,
    count_zero_nil fun t => (hw.owes t).trans (by rw [ho, ht]; rfl)⟩

/-- … so every message the predicted frames deliver is acknowledged exactly as often as it is delivered (once) -/
theorem predicted_every_delivery_acked (env : Env) (fuel : Nat) (asl input ctx : Json)
    (h : (run env fuel asl input ctx).status = S "SUCCEEDED" ∨ (run env fuel asl input ctx).status = S "FAILED")
    (t : Nat) :
    acks t (predictedFrames (run env fuel asl input ctx)) = delivers t (predictedFrames (run env fuel asl input ctx)) :=
  drained_all_acked _ t (predicted_ledger_drained env fuel asl input ctx h).1
    (predicted_ledger_drained env fuel asl input ctx h).2

/-- (iii) an acknowledgement does not precede the publication of what it stands for: in every predicted step that
is not the last step of a branch waiting for its join (`early`: C04-F2 / C04-F4), a step that acknowledges anything
has published something — a successor's event, a task's request, the terminal notification — and, by (i), before
the acknowledgement -/
theorem predicted_ack_after_consequence (env : Env) (fuel : Nat) (asl input ctx : Json) :
    ∀ s ∈ (run env fuel asl input ctx).steps, s.early = false → s.frames.any BFr.isAck = true →
      s.frames.any BFr.isPub = true :=
  fun s hs => (run_end env fuel asl input ctx).1.consequence s (List.mem_reverse.mp hs)

/-- … the transition of a sequential state: the successor's event is published in the same step as, and before,
the acknowledgements of that step (the state's own event, the reply that completed it), and is the next delivery -/
theorem handover_publishes_then_acks (fs : FS) (t : Rat) (name : Str) :
    (fs.handover t name).steps =
      { t := t, frames := fs.open_.reverse ++ [.pubEv fs.next name fs.path] ++ (fs.hold ++ fs.now).map .ack, early := false }
        :: fs.steps ∧
    (fs.handover t name).open_ = [.deliver fs.next] ∧ (fs.handover t name).hold = [fs.next] := by
  simp [FS.handover, FS.closeAck, FS.pub, FS.deliverHold, FS.mkStep]

/-- (iv) fuel independence covers the predicted steps too: with more fuel a run that did not run out of fuel
predicts the same steps -/
theorem predicted_steps_fuel_independent (env : Env) (n m : Nat) (h : n ≤ m) (asl input ctx : Json)
    (hs : (run env n asl input ctx).status ≠ S "FUEL") :
    (run env m asl input ctx).steps = (run env n asl input ctx).steps := by
  rw [run_fuel_independent env n m h asl input ctx hs]

/-! non-vacuity: the predicted steps of three small machines -/
private def envX : Env := { tmpl := fun i _ _ => .ok i, choose := fun _ _ _ _ => none, task := fun _ _ _ => .obj [] }
private def passM : Json := .obj [(S "StartAt", .str (S "A")), (S "States", .obj [
  (S "A", .obj [(S "Type", .str (S "Pass")), (S "Next", .str (S "B"))]),
  (S "B", .obj [(S "Type", .str (S "Pass")), (S "End", .bool true)])])]
private def taskSt (fn : String) : Json :=
  .obj [(S "Type", .str (S "Task")), (S "Resource", .str (S ("arn:aws:rpcmessage:local::function:" ++ fn))), (S "End", .bool true)]
private def taskM : Json := .obj [(S "StartAt", .str (S "T")), (S "States", .obj [(S "T", taskSt "f")])]
private def parM : Json := .obj [(S "StartAt", .str (S "P")), (S "States", .obj [
  (S "P", .obj [(S "Type", .str (S "Parallel")), (S "End", .bool true), (S "Branches", .arr [
    .obj [(S "StartAt", .str (S "X")), (S "States", .obj [(S "X", taskSt "f")])],
    .obj [(S "StartAt", .str (S "Y")), (S "States", .obj [(S "Y", .obj [(S "Type", .str (S "Pass")), (S "End", .bool true)])])]])])])]

/-- Pass, Pass: the start event's step publishes the successor's event before acknowledging; the terminal step
notifies before acknowledging -/
example : ((run envX 20 passM (.obj []) (.obj [])).steps.map (·.frames)) =
    [[.deliver 0, .pubNote (S "RUNNING"), .pubEv 1 (S "B") [], .ack 0],
     [.deliver 1, .pubNote (S "SUCCEEDED"), .ack 1]] := by decide +kernel
/-- a Task: the event's step, the delegate's request, the reply's step (after the worker's 10 ms) -/
example : ((run envX 20 taskM (.obj []) (.obj [])).steps.map (fun s => (s.t, s.frames))) =
    [(0, [.deliver 0, .pubNote (S "RUNNING")]), (0, [.pubReq 1 0]),
     (10, [.deliver 1, .pubNote (S "SUCCEEDED"), .ack 0, .ack 1])] := by decide +kernel
/-- a Parallel state whose second branch ends first: its event is held; the reply of the first completes the join -/
example : ((run envX 20 parM (.obj []) (.obj [])).steps.map (fun s => (s.t, s.early, s.frames))) =
    [(0, false, [.deliver 0, .pubNote (S "RUNNING")]),
     (0, false, [.pubEv 1 (S "X") [0], .pubEv 2 (S "Y") [1], .ack 0]),
     (0, false, [.deliver 1]), (0, false, [.pubReq 3 1]),
     (0, true, [.deliver 2]),
     (10, false, [.deliver 3, .pubNote (S "SUCCEEDED"), .ack 1, .ack 2, .ack 3])] := by decide +kernel
example : (Ledger.run (predictedFrames (run envX 20 parM (.obj []) (.obj [])))).unacked = [] := by decide +kernel

end Asl.C03
