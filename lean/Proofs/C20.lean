/-
C20 — stores act as dictionaries, persist definitions, and caches are never stale.
All theorems are for the model with no deviation switched on (`Quirks.none`) unless they hold for
every `Quirks` value, in which case `q` is universally quantified.
-/
import Proofs.Lemmas.StoreSteps
namespace Asl.C20
open Asl Asl.Store

/-! ### every store kind refines the mapping `Str → Option Json` -/

/-- SimpleStore: every operation (other than a restart, which empties process memory) commutes with
the abstraction to a mapping, answers what the mapping says, and keeps keys unique. -/
theorem store_refines_map_mem (s : Mem) (op : Op) (hk : (aKeys s).Nodup) (hop : op ≠ .reopen) :
    mabs (memStep s op).1 = specStep false (mabs s) op ∧
    specOut (mabs s) op (memStep s op).2 ∧ (aKeys (memStep s op).1).Nodup := by
  cases op with
  | set k v => exact ⟨by simp [memStep, specStep, mabs_aSet], by simp [specOut], aKeys_aSet_nodup _ _ _ hk⟩
  | upd k f v | app k v =>
    simp only [memStep, memNested, specStep, specOut]
    cases h : aGet s k with
    | none => simp [mabs, h, hk]
    | some d =>
      simp only [mabs, h]
      split
      · simpa [*, aKeys_aSet_nodup _ _ _ hk] using mabs_aSet s k _
      · simp [*]
  | get k | cget k =>
    simp only [memStep, specStep, specOut]
    cases h : aGet s k <;> simp [mabs, h, hk]
  | del k =>
    simp only [memStep, specStep, specOut]
    cases h : aGet s k with
    | none => simpa [hk] using (spec_del_absent _ _ (by simp [mabs, h])).symm
    | some d => simp [mabs_aDel, aKeys_aDel_nodup _ _ hk]
  | has k => simp [memStep, specStep, specOut, mabs, hk]
  | iter | len =>
    refine ⟨by simp [memStep, specStep], ?_, by simpa [memStep] using hk⟩
    exact ⟨aKeys s, by simp [memStep, aKeys], hk, fun k => by simp [mabs, aGet_isSome_iff]⟩
  | ttl k n | gttl k | deliver => simp [memStep, specStep, specOut, hk]
  | reopen => exact absurd rfl hop

/-- JSONStore, seen by the client that operates it. -/
theorem store_refines_map_json (q : Quirks) (w : JWorld) (c : Nat) (op : Op)
    (hk : (aKeys (w.mem c)).Nodup) (hop : op ≠ .reopen) :
    jabs (jsonStep q w c op).1 c = specStep false (jabs w c) op ∧
    specOut (jabs w c) op (jsonStep q w c op).2 ∧ (aKeys ((jsonStep q w c op).1.mem c)).Nodup := by
  obtain ⟨h1, h2⟩ := jsonStep_mem q w c op hop
  have := store_refines_map_mem (w.mem c) op hk hop
  rwa [← h1, ← h2] at this

/-- RedisDictStore / RedisListStore: the mapping a namespace presents is a function of the server
keyspace only (not of the client), and every accepted operation by any client commutes with it. -/
theorem store_refines_map_redis (cfgs : Nat → Cfg) (w : RWorld) (c : Nat) (op : Op)
    (hk : (aKeys w.srv).Nodup) (hok : opOk (cfgs c) op = true) :
    rabs (rstep Quirks.none cfgs w c op).1 (cfgs c).pre = specStep true (rabs w (cfgs c).pre) op ∧
    specOut (rabs w (cfgs c).pre) op (rstep Quirks.none cfgs w c op).2 ∧
    (aKeys (rstep Quirks.none cfgs w c op).1.srv).Nodup := by
  refine ⟨?_, ?_, rstep_nodup _ cfgs w c op hk⟩
  · cases op with
    | set k v =>
      simp only [opOk] at hok
      simp only [rstep, hok, Quirks.none, specStep, Bool.false_and, Bool.false_eq_true, ↓reduceIte]
      -- DEL, a read on this connection, then HSET / RPUSH
      rw [rabs_put, rabs_srv_eq _ (setCl _ _ _) _ (setCl_srv _ _ _), rabs_del, spec_set_del]
    | upd k f v | app k v =>
      simp only [opOk, Bool.not_eq_true'] at hok
      simp only [rstep, hok, specStep, rabs, Bool.false_eq_true, Bool.not_true, ↓reduceIte]
      cases h : aGet w.srv (pk (cfgs c).pre k) with
      | none => simpa [view, emptyOf, nestedSet, nestedApp, objSet] using rabs_put _ _ _ _
      | some d =>
        simp only [view]
        split
        · simpa [*] using rabs_put _ _ _ _
        · simp [*]
    | del k => exact rabs_del _ _ _
    | ttl k n =>
      simp only [opOk, bne_iff_ne, ne_eq] at hok
      simp only [rstep, hok, if_false, specStep]
      split <;> rfl
    | cget k | reopen | deliver => exact rabs_srv_eq _ _ _ (cacheOp_server _ cfgs w c _ rfl).1
    | get k | has k | gttl k | iter | len => rfl
  · cases op with
    | get k =>
      intro v hv
      simp only [rabs] at hv
      simp [rstep, rread, hv, view]
    | has k => rfl
    | iter | len =>
      exact ⟨scanKeys (cfgs c).pre w.srv, rfl, scanKeys_nodup _ _ hk, fun k => scanKeys_mem _ _ k⟩
    | _ => trivial

/-- what one engine instance wrote is what any other instance of the same store reads, whatever
happened to either client's cache. -/
theorem last_write_read_by_any_client (q : Quirks) (cfgs : Nat → Cfg) (w : RWorld) (c c' : Nat)
    (k : Str) (v : Json) (hp : (cfgs c').pre = (cfgs c).pre)
    (hv : okVal (cfgs c).isList v = true) :
    (rstep q cfgs (rstep Quirks.none cfgs w c (.set k v)).1 c' (.get k)).2 = .val v := by
  simp [rstep, rread, hv, Quirks.none, hp, aGet_aSet, view]

/-- list values keep append order, whichever clients append. -/
theorem list_append_order (q : Quirks) (cfgs : Nat → Cfg) (p k : Str) (apps : List (Nat × Json))
    (w : RWorld) (xs : List Json)
    (hc : ∀ a ∈ apps, (cfgs a.1).pre = p ∧ (cfgs a.1).isList = true)
    (h0 : view true (rabs w p k) = .arr xs) :
    view true (rabs (rrun q cfgs w (apps.map (fun a => (a.1, Op.app k a.2)))).1 p k)
      = .arr (xs ++ apps.map (fun a => a.2)) := by
  induction apps generalizing w xs with
  | nil => simpa [rrun] using h0
  | cons a r ih =>
    obtain ⟨hp, hl⟩ := hc a (by simp)
    have step : view true (rabs (rstep q cfgs w a.1 (.app k a.2)).1 p k) = .arr (xs ++ [a.2]) := by
      simp only [rabs] at h0
      simp only [rstep, hl, hp, Bool.not_true, Bool.false_eq_true, if_false, h0, nestedApp]
      simp [rabs, aGet_aSet, view]
    have := ih (rstep q cfgs w a.1 (.app k a.2)).1 (xs ++ [a.2])
      (fun b hb => hc b (List.mem_cons_of_mem _ hb)) step
    simpa [rrun, List.append_assoc] using this

/-- JSONStore: after any sequence of operations by an engine instance, restarting it — or starting
any other instance on the same file — finds exactly the mapping the first one had. -/
theorem reopen_keeps_definitions_json (f : FileC) (c c' : Nat) (ops : List Op) :
    jabs (jsonStep Quirks.none (jrun Quirks.none (jopen f) (ops.map (fun o => (c, o)))).1 c' .reopen).1 c'
      = jabs (jrun Quirks.none (jopen f) (ops.map (fun o => (c, o)))).1 c := by
  have h := synced_run (jopen f) c ops (synced_open f c)
  funext k
  simp [jabs, jsonStep, h]

/-- Redis stores: a restarting client loses only its cache; the mapping of every namespace stays. -/
theorem reopen_keeps_definitions_redis (q : Quirks) (cfgs : Nat → Cfg) (w : RWorld) (c : Nat) (p : Str) :
    rabs (rstep q cfgs w c .reopen).1 p = rabs w p := rfl

/-- a store file that is missing, is not JSON, or is JSON but not an object -/
def Unreadable : FileC → Prop
  | .doc (.obj _) => False
  | _ => True

/-- an unreadable store file starts empty, and the store then works (no crash): a write is accepted
and read back. -/
theorem unreadable_file_is_empty (f : FileC) (h : Unreadable f) (c : Nat) :
    (∀ k, jabs (jopen f) c k = none) ∧
    ∀ (q : Quirks) (k : Str) (v : Json),
      (jsonStep q (jopen f) c (.set k v)).2 = .done ∧
      jabs (jsonStep q (jopen f) c (.set k v)).1 c k = some v := by
  have hl : load f = [] := by
    unfold load
    split
    · exact False.elim h
    · rfl
  refine ⟨fun k => by simp [jabs, jopen, hl, aGet], fun q k v => ?_⟩
  simp [jsonStep, memStep, jabs, jopen, hl, aGet_aSet]

/-- worlds reachable from a freshly started set of clients by any interleaving of client operations
and invalidation deliveries -/
inductive Reach (q : Quirks) (cfgs : Nat → Cfg) : RWorld → Prop
  | init (srv : List (Str × Json)) (ttl : List (Str × Nat)) : Reach q cfgs (ropen srv ttl)
  | step {w : RWorld} (c : Nat) (op : Op) : Reach q cfgs w → Reach q cfgs (rstep q cfgs w c op).1

theorem reach_inv (q : Quirks) (cfgs : Nat → Cfg) (w : RWorld) (h : Reach q cfgs w) :
    Coh cfgs w ∧ CapOK cfgs w := by
  induction h with
  | init srv ttl =>
    exact ⟨fun c k v hm => by simp [ropen, Client.fresh] at hm, fun c => by simp [ropen, Client.fresh]⟩
  | step c op _ ih => exact ⟨coh_step q cfgs _ c op ih.1, cap_step q cfgs _ c op ih.2⟩

/-- a cached view never holds more than its capacity — in every reachable world, for every client. -/
theorem cache_le_capacity (q : Quirks) (cfgs : Nat → Cfg) (w : RWorld) (h : Reach q cfgs w) (c : Nat) :
    (w.cl c).cache.length ≤ (cfgs c).cap :=
  (reach_inv q cfgs w h).2 c

/-- over all interleavings of operations and deliveries with any number of clients: whatever a client
has cached for a key is the value the server holds, unless an invalidation for that key has been sent
to this client and not yet delivered. -/
theorem cache_coherent (q : Quirks) (cfgs : Nat → Cfg) (w : RWorld) (h : Reach q cfgs w)
    (c : Nat) (k : Str) (v : Json) (hc : aGet (w.cl c).cache k = some v) :
    pk (cfgs c).pre k ∈ (w.cl c).pending ∨ view (cfgs c).isList (rabs w (cfgs c).pre k) = v := by
  rcases (reach_inv q cfgs w h).1 c k v (mem_of_aGet _ _ _ hc) with hp | ⟨_, hv⟩
  · exact Or.inl hp
  · exact Or.inr hv

/-- hence: once every invalidation sent to a client has been delivered, its cached view of any key
is the current value. -/
theorem cached_read_current_after_delivery (q : Quirks) (cfgs : Nat → Cfg) (w : RWorld)
    (h : Reach q cfgs w) (c : Nat) (k : Str) (hp : (w.cl c).pending = []) :
    (rstep q cfgs w c (.cget k)).2 = .val (view (cfgs c).isList (rabs w (cfgs c).pre k)) := by
  dsimp only [rstep]
  split
  · rfl
  · by_cases hon : (w.cl c).on = true
    · rw [if_pos hon]
      split
      · rename_i v hv
        rcases cache_coherent q cfgs w h c k v hv with hq | hq
        · rw [hp] at hq; cases hq
        · rw [hq]
      · rfl
    · rw [if_neg hon]; rfl

/-- `set_ttl(k, n)` on a stored record gives exactly that record the time-to-live `n` and changes no
value. -/
theorem ttl_applied (q : Quirks) (cfgs : Nat → Cfg) (w : RWorld) (c : Nat) (k : Str) (n : Nat)
    (hp : (rabs w (cfgs c).pre k).isSome = true) (hn : n ≠ 0) :
    aGet (rstep q cfgs w c (.ttl k n)).1.ttl (pk (cfgs c).pre k) = some n ∧
    (rstep q cfgs w c (.ttl k n)).2 = .ttlv (some (some n)) ∧
    (rstep q cfgs w c (.ttl k n)).1.srv = w.srv := by
  simp only [rabs] at hp
  simp [rstep, hp, hn, aGet_aSet]

/-- nested updates and appends (how the engine grows a record and its history) keep every TTL. -/
theorem ttl_kept_by_nested_update (q : Quirks) (cfgs : Nat → Cfg) (w : RWorld) (c : Nat) (k f : Str)
    (v : Json) :
    (rstep q cfgs w c (.upd k f v)).1.ttl = w.ttl ∧ (rstep q cfgs w c (.app k v)).1.ttl = w.ttl :=
  ⟨grow_keeps_ttl q cfgs w c _ rfl, grow_keeps_ttl q cfgs w c _ rfl⟩

/-- the engine's write pattern for an execution record (and, from its first event on, its history): the
whole record is written, `set_ttl` gives it the configured time-to-live `n`, and from then on the record
is only grown and read (member updates, appends, plain / cached reads, membership tests — `isGrow`) by
any clients in any order: at the end the record still carries exactly `n`.  (Without the `set_ttl`
step it carries none: `whole_key_set_drops_ttl`.) -/
theorem engine_written_record_keeps_ttl (q : Quirks) (cfgs : Nat → Cfg) (w : RWorld) (c : Nat) (k : Str)
    (v : Json) (n : Nat) (rest : List (Nat × Op))
    (hv : okVal (cfgs c).isList v = true) (hne : isEmptyVal v = false) (hn : n ≠ 0)
    (hrest : ∀ e ∈ rest, isGrow e.2 = true) :
    aGet (rrun q cfgs w ((c, .set k v) :: (c, .ttl k n) :: rest)).1.ttl (pk (cfgs c).pre k) = some n := by
  simp only [rrun]
  rw [grow_run_keeps_ttl q cfgs _ rest hrest]
  have hp : (rabs (rstep q cfgs w c (.set k v)).1 (cfgs c).pre k).isSome = true := by
    simp [rabs, set_makes_present q cfgs w c k v hv hne]
  exact (ttl_applied q cfgs _ c k n hp hn).1

/-- (the model copies the code here, the property is silent) replacing a whole record is DEL + HSET /
RPUSH, so the record comes back without a TTL: the engine must call `set_ttl` again. -/
theorem whole_key_set_drops_ttl (cfgs : Nat → Cfg) (w : RWorld) (c : Nat) (k : Str) (v : Json)
    (hp : (rabs w (cfgs c).pre k).isSome = true) (hv : okVal (cfgs c).isList v = true) :
    aGet (rstep Quirks.none cfgs w c (.set k v)).1.ttl (pk (cfgs c).pre k) = none := by
  simp only [rabs] at hp
  simp [rstep, hv, Quirks.none, srvDel, hp, aGet_aDel]

/-! ### non-vacuity: the hypotheses are met by concrete non-trivial states -/

private def s (x : String) : Str := x.toList
private def cfg2 : Nat → Cfg := fun _ => { pre := s "asl_store", isList := false, cap := 1, legacy := false }
private def cfgL : Nat → Cfg := fun _ => { pre := s "execution_history", isList := true, cap := 2, legacy := false }
private def mem0 : Mem := [(s "k1", .obj [(s "x", .num 1)]), (s "k2", .arr [.num 1])]
private def w0 : RWorld := ropen [(s "asl_store:k1", .obj [(s "x", .num 1)]), (s "other:k9", .obj [])] []

-- store_refines_map_mem / _json: a two-key store with unique keys and a nested update
example : (aKeys mem0).Nodup ∧ Op.upd (s "k1") (s "x") (.num 2) ≠ .reopen := ⟨by decide, by simp⟩
example : (aKeys ((jopen (.doc (.obj mem0))).mem 0)).Nodup := by decide
-- store_refines_map_redis: unique keys, an accepted write
example : (aKeys w0.srv).Nodup ∧ opOk (cfg2 0) (.set (s "k2") (.obj [(s "y", .null)])) = true := by
  decide +kernel
-- last_write_read_by_any_client: two clients of one namespace
example : (cfg2 1).pre = (cfg2 0).pre ∧ okVal (cfg2 0).isList (.obj []) = true := ⟨rfl, rfl⟩
-- list_append_order: a list store, an existing two-element history, appends by clients 0 and 1
example : (∀ a ∈ [((0 : Nat), Json.num 3), (1, .num 4)], (cfgL a.1).pre = s "execution_history" ∧ (cfgL a.1).isList = true) ∧
    view true (rabs (ropen [(s "execution_history:e", .arr [.num 1, .num 2])] []) (s "execution_history") (s "e"))
      = .arr [.num 1, .num 2] := by decide +kernel
-- unreadable_file_is_empty: garbage, a missing file, JSON that is not an object
example : Unreadable .garbage ∧ Unreadable .missing ∧ Unreadable (.doc (.arr [.num 1])) ∧ Unreadable (.doc .null) :=
  ⟨trivial, trivial, trivial, trivial⟩
/-- a reachable world in which client 1 holds a cached entry that is stale and awaiting delivery:
client 1 reads k1 through its cache, client 0 overwrites k1 -/
private def wStale : RWorld :=
  (rstep Quirks.none cfg2 (rstep Quirks.none cfg2 w0 1 (.cget (s "k1"))).1 0 (.set (s "k1") (.obj [(s "x", .num 2)]))).1
private theorem wStale_reach : Reach Quirks.none cfg2 wStale := Reach.step _ _ (Reach.step _ _ (Reach.init _ _))
-- cache_coherent / cache_le_capacity: that world has a cached entry, a pending invalidation, and the cached
-- value differs from the server's (so the first disjunct is really needed)
example : aGet (wStale.cl 1).cache (s "k1") = some (.obj [(s "x", .num 1)]) ∧
    (wStale.cl 1).pending = [s "asl_store:k1"] ∧
    rabs wStale (s "asl_store") (s "k1") = some (.obj [(s "x", .num 2)]) := by decide +kernel
-- cached_read_current_after_delivery: after the delivery step the queue is empty (and the read is current)
example : ((rstep Quirks.none cfg2 wStale 1 .deliver).1.cl 1).pending = [] ∧
    (rstep Quirks.none cfg2 (rstep Quirks.none cfg2 wStale 1 .deliver).1 1 (.cget (s "k1"))).2
      = .val (.obj [(s "x", .num 2)]) := ⟨by rfl, by rfl⟩
-- ttl_applied / whole_key_set_drops_ttl: a stored record, a positive TTL, a dict value
example : (rabs w0 (cfg2 0).pre (s "k1")).isSome = true ∧ (86400 : Nat) ≠ 0 ∧
    okVal (cfg2 0).isList (.obj [(s "x", .num 5)]) = true := by decide +kernel

-- engine_written_record_keeps_ttl: a record, the configured TTL, then a status update, a cached read by another
-- client and a membership test (all `isGrow`); the TTL is still there, and without the set_ttl step there is none
example : okVal (cfg2 0).isList (.obj [(s "status", .str (s "RUNNING"))]) = true ∧
    isEmptyVal (.obj [(s "status", .str (s "RUNNING"))]) = false ∧
    (∀ e ∈ [((0 : Nat), Op.upd (s "e1") (s "status") (.str (s "SUCCEEDED"))), (1, .cget (s "e1")), (1, .has (s "e1"))],
      isGrow e.2 = true) ∧
    aGet (rrun Quirks.none cfg2 w0 [(0, .set (s "e1") (.obj [(s "status", .str (s "RUNNING"))])),
      (0, .upd (s "e1") (s "status") (.str (s "SUCCEEDED")))]).1.ttl (pk (cfg2 0).pre (s "e1")) = none := by
  decide +kernel

/-! ### the recorded deviations break the property in the model (witnesses replayed on the code) -/

/-- C20-F1: with `emptyAbsent`, a key whose last written value is `{}` is not a member -/
example : (rstep { emptyAbsent := true } cfg2
      (rstep { emptyAbsent := true } cfg2 w0 0 (.set (s "k2") (.obj []))).1 0 (.has (s "k2"))).2 = .flag false ∧
    (rstep Quirks.none cfg2 (rstep Quirks.none cfg2 w0 0 (.set (s "k2") (.obj []))).1 0 (.has (s "k2"))).2 = .flag true :=
  ⟨by rfl, by rfl⟩

/-- C20-F2: with `nestedMemOnly`, a nested update is lost by a restart -/
example :
    (jrun { nestedMemOnly := true } (jopen .missing)
      [(0, .set (s "k1") (.obj [(s "x", .num 1)])), (0, .upd (s "k1") (s "x") (.num 2)), (0, .reopen), (0, .get (s "k1"))]).2.getLast?
      = some (.val (.obj [(s "x", .num 1)])) ∧
    (jrun Quirks.none (jopen .missing)
      [(0, .set (s "k1") (.obj [(s "x", .num 1)])), (0, .upd (s "k1") (s "x") (.num 2)), (0, .reopen), (0, .get (s "k1"))]).2.getLast?
      = some (.val (.obj [(s "x", .num 2)])) := ⟨by rfl, by rfl⟩

/-- C20-F3: two JSONStore instances on one file: the second does not read what the first wrote
(each has a private memory image; this is the model of the code, no switch) -/
example : (jrun Quirks.none (jopen .missing)
      [(0, .set (s "k1") (.obj [])), (1, .get (s "k1"))]).2 = [.done, .keyError] := by rfl

end Asl.C20
