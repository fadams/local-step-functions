/-
C10 — the state-machine and execution API behaves like a simple keyed store.

The statements are about `Api.step` (the reference model the implementation's answers are
compared with on every run): all configurations, environments (clock, uuid, lint verdict,
broker verdict, engine answer), states, actions and raw JSON arguments — no bound on the store
or on the history.  `api_refines_keyed_store` ties `Api.step` to the specification
`Api.Spec.step` over plain finite maps (AslModel/ApiSpec.lean) for every history.
-/
import Proofs.Lemmas.ApiRefine
import Proofs.Lemmas.JsonParseWf
namespace Asl.C10
open Asl Asl.Api

abbrev req (action : String) (p : Params) : Call := ⟨S action, some (.obj p)⟩

/-- a request for a named action becomes `decideKind` of the `Action` -/
local macro "dispatch" : tactic => `(tactic| simp only [req, action_names, step_name])

/-- every action (the thirteen and the unknown ones), every argument, every environment:
an answer that is an error — a refusal, the 500 of a refused publish, the 408 of a
synchronous execution the engine did not finish — leaves all three stores as they were -/
theorem error_leaves_state (cfg : Cfg) (env : Env) (s : State) (c : Call)
    (h : (step cfg env s c).2.isError = true) : (step cfg env s c).1 = s := by
  have ho := step_outcome cfg env s c
  generalize step cfg env s c = st, published cfg env s c = pub at ho h ⊢
  cases ho with
  | accepted k eff r _ hr => rw [hr] at h; cases h
  | _ => rfl

/-- a request that is turned away hands nothing to the event dispatcher -/
theorem error_publishes_nothing (cfg : Cfg) (env : Env) (s : State) (c : Call)
    (h : (step cfg env s c).2.isRefusal = true) : published cfg env s c = none := by
  have ho := step_outcome cfg env s c
  generalize step cfg env s c = st, published cfg env s c = pub at ho h ⊢
  cases ho with
  | started | syncAnswered | syncTimedOut => cases h
  | _ => rfl

/-- the one error answer that is not a refusal: 408, given only by an accepted
StartSyncExecution (which did publish its start event) when the engine handed nothing back -/
theorem timed_out_only_sync (cfg : Cfg) (env : Env) (s : State) (c : Call)
    (h : (step cfg env s c).2 = .timedOut) :
    c.action = S "StartSyncExecution" ∧ env.syncOutcome = none ∧ env.publishFails = false ∧
    (published cfg env s c).isSome = true ∧ (step cfg env s c).1 = s := by
  have ho := step_outcome cfg env s c
  generalize step cfg env s c = st, published cfg env s c = pub at ho h ⊢
  cases ho with
  | accepted k eff r _ hr => cases h; cases hr
  | syncTimedOut ev ha hf ho => exact ⟨ha, ho, hf, rfl, rfl⟩
  | _ => cases h

/-- with a broker that takes the start message no request of any kind is answered 5xx -/
theorem no_internal_error (cfg : Cfg) (env : Env) (s : State) (c : Call)
    (hb : env.publishFails = false) :
    (step cfg env s c).2 ≠ .internalError ∧ (step cfg env s c).2.status < 500 := by
  have ho := step_outcome cfg env s c
  generalize step cfg env s c = st, published cfg env s c = pub at ho ⊢
  cases ho with
  | accepted k eff r _ hr h200 =>
    refine ⟨fun e => ?_, by simp [h200]⟩
    cases e; cases hr
  | brokerDown k _ _ hf => rw [hb] at hf; cases hf
  | _ => simp [Response.status]

/-- the documented 500: only StartExecution / StartSyncExecution, only when the broker refused
the start message; nothing was stored and nothing published -/
theorem internal_error_only_failed_publish (cfg : Cfg) (env : Env) (s : State) (c : Call)
    (h : (step cfg env s c).2 = .internalError) :
    env.publishFails = true ∧ (c.action = S "StartExecution" ∨ c.action = S "StartSyncExecution") ∧
    (step cfg env s c).1 = s ∧ published cfg env s c = none := by
  have ho := step_outcome cfg env s c
  generalize step cfg env s c = st, published cfg env s c = pub at ho h ⊢
  cases ho with
  | accepted k eff r _ hr => cases h; cases hr
  | brokerDown k ha hk hf => exact ⟨hf, by rcases hk with rfl | rfl <;> simp [ha, action_names], rfl, rfl⟩
  | _ => cases h

/-- the same over whole histories: the stores after a history are those after its successful
requests and engine writes only -/
theorem history_errors_are_noops (cfg : Cfg) (s : State) (env : Env) (c : Call) (rest : List Event)
    (h : (step cfg env s c).2.isError = true) :
    run cfg s (.call env c :: rest) = run cfg s rest := by
  simp [run, apply, error_leaves_state cfg env s c h]

/-- what a successful CreateStateMachine stores is what was sent: the decoded definition
text, the name, the role; both dates are the clock; the ARN was free -/
theorem create_stores_arguments (cfg : Cfg) (env : Env) (ms : Lk Machine) (p : Params) (arn : Str) (m : Machine)
    (h : validateCreate cfg env ms p = .ok (arn, m)) :
    ∃ t, arg p "definition" = some (.str t) ∧ parseJson t = some m.definition ∧
      arg p "name" = some (.str m.name) ∧ arg p "roleArn" = some (.str m.roleArn) ∧
      m.creationDate = env.now ∧ m.updateDate = env.now ∧ ms arn = none ∧
      (cfg.quirks.createUncheckedArn = false → validSmArn arn = true) := by
  obtain ⟨hk, hl, hd, _, _, hc, hu⟩ := validateCreate_ok h
  obtain ⟨hn, _, hr, _, _, hva, _⟩ := createKey_ok hk
  obtain ⟨t, ht, hp, _⟩ := decodeDefinition_ok hd
  exact ⟨t, ht, hp, hn, hr, hc, hu, hl, hva⟩

/-- the definition described is the definition created, for every definition the create
accepted.  CreateStateMachine answered 200 (any configuration without the recorded deviation
C10-F5, any clock, store and arguments): its answer names an ARN; the sent `definition` is a
text `t` denoting a JSON value `d`; and DescribeStateMachine of that ARN — at any later clock —
answers 200 with the record, whose `definition` member is a text `t'` that denotes the same
value `d` (`json.loads(t') = json.loads(t)`), and whose name and role are the ones sent.
No hypothesis on the ARN: the create has checked that it is one Describe accepts. -/
theorem create_then_describe (cfg : Cfg) (env env' : Env) (s : State) (p q : Params) (body : Json)
    (hq : cfg.quirks.createUncheckedArn = false)
    (h : (step cfg env s (req "CreateStateMachine" p)).2 = .ok body) :
    ∃ arn t d name role,
      body = .obj [(S "creationDate", .num env.now), (S "stateMachineArn", .str arn)] ∧
      arg p "definition" = some (.str t) ∧ parseJson t = some d ∧
      arg p "name" = some (.str name) ∧ arg p "roleArn" = some (.str role) ∧
      (arg q "stateMachineArn" = some (.str arn) →
        ∃ kvs t',
          step cfg env' (step cfg env s (req "CreateStateMachine" p)).1 (req "DescribeStateMachine" q) =
            ((step cfg env s (req "CreateStateMachine" p)).1, .ok (.obj kvs)) ∧
          objGet kvs (S "definition") = some (.str t') ∧ parseJson t' = some d ∧
          objGet kvs (S "name") = some (.str name) ∧ objGet kvs (S "roleArn") = some (.str role) ∧
          objGet kvs (S "stateMachineArn") = some (.str arn) ∧
          objGet kvs (S "creationDate") = some (.num env.now)) := by
  obtain ⟨arn, m, hv, hstep⟩ := create_accepted h
  obtain ⟨t, ht, hp, hn, hr, hc, _, _, hva⟩ := create_stores_arguments cfg env _ p arn m hv
  have hva := hva hq
  simp only [req, action_names] at h ⊢
  rw [hstep] at h ⊢
  cases h
  refine ⟨arn, t, m.definition, m.name, m.roleArn, by rw [hc], ht, hp, hn, hr, fun hqa => ?_⟩
  obtain ⟨kvs, hk, h1, h2, h3, h4, h5⟩ := describe_members arn m
  refine ⟨kvs, render m.definition, ?_, h1, parseJson_render_of_parsed t m.definition hp,
    h2, h3, h4, by rw [h5, hc]⟩
  rw [step_describe_ok (by rw [hqa]; exact arnArg_of_valid hva) (lookup_insert_same _ _ _), hk]

/-- a machine with that ARN exists: CreateStateMachine is refused with the documented type
and nothing changes -/
theorem duplicate_refused (cfg : Cfg) (env : Env) (s : State) (p : Params) (arn name role ty : Str)
    (hk : createKey cfg p = .ok (arn, name, role, ty)) (hl : (lookup s.machines arn).isSome = true) :
    step cfg env s (req "CreateStateMachine" p) = (s, .error (S "StateMachineAlreadyExists")) := by
  dispatch
  simp only [decideKind, validateCreate_dup hk hl, finish_error]

/-- in particular the same request twice: the second is refused whatever the clock says -/
theorem create_twice_refused (cfg : Cfg) (env env' : Env) (s : State) (p : Params) (body : Json)
    (h : (step cfg env s (req "CreateStateMachine" p)).2 = .ok body) :
    step cfg env' (step cfg env s (req "CreateStateMachine" p)).1 (req "CreateStateMachine" p) =
      ((step cfg env s (req "CreateStateMachine" p)).1, .error (S "StateMachineAlreadyExists")) := by
  obtain ⟨arn, m, hv, hstep⟩ := create_accepted h
  simp only [req, action_names] at hstep ⊢
  rw [hstep]
  exact duplicate_refused cfg env' _ p arn _ _ _ (validateCreate_ok hv).1
    (by simp [lookup_insert_same])

/-- a well-formed state-machine ARN that is not in the store: Update, Delete, Describe and
ListExecutions answer StateMachineDoesNotExist and change nothing -/
theorem unknown_refused (cfg : Cfg) (env : Env) (s : State) (p : Params) (arn : Str)
    (ha : arnArg validSmArn (arg p "stateMachineArn") = .ok arn) (hl : lookup s.machines arn = none) :
    step cfg env s (req "UpdateStateMachine" p) = (s, .error (S "StateMachineDoesNotExist")) ∧
    step cfg env s (req "DeleteStateMachine" p) = (s, .error (S "StateMachineDoesNotExist")) ∧
    step cfg env s (req "DescribeStateMachine" p) = (s, .error (S "StateMachineDoesNotExist")) ∧
    step cfg env s (req "ListExecutions" p) = (s, .error (S "StateMachineDoesNotExist")) := by
  dispatch
  refine ⟨?_, ?_, ?_, ?_⟩
  · simp only [decideKind, validateUpdate_unknown ha hl, finish_error]
  all_goals simp only [decideKind, ha, hl, finish_error]

/-- StartExecution of a machine that is not in the store is never accepted and publishes nothing
(the type is StateMachineDoesNotExist once name and input are acceptable) -/
theorem unknown_start_refused (cfg : Cfg) (env : Env) (s : State) (p : Params) (arn : Str)
    (ha : arnArg validSmArn (arg p "stateMachineArn") = .ok arn) (hl : lookup s.machines arn = none) :
    (step cfg env s (req "StartExecution" p)).2.isError = true ∧
    (step cfg env s (req "StartExecution" p)).1 = s ∧
    published cfg env s (req "StartExecution" p) = none ∧
    (∀ name input, startArgs env p = .ok (arn, name, input) →
      (step cfg env s (req "StartExecution" p)).2 = .error (S "StateMachineDoesNotExist")) := by
  obtain ⟨e, he⟩ : ∃ e, validateStart env (lookup s.machines) p = .error e := by
    cases hv : validateStart env (lookup s.machines) p with
    | error e => exact ⟨e, rfl⟩
    | ok x =>
      obtain ⟨hx, hm⟩ := validateStart_ok hv
      rw [ha] at hx
      cases hx
      rw [hl] at hm
      cases hm
  have hstep : step cfg env s (req "StartExecution" p) = (s, .error e) := by
    dispatch
    simp only [decideKind, he, finish_error]
  refine ⟨by rw [hstep]; rfl, by rw [hstep], ?_, ?_⟩
  · simp only [req, action_names, published_name, decideKind, he]
  · intro name input hs
    have : e = S "StateMachineDoesNotExist" :=
      Except.error.inj (he.symm.trans (validateStart_unknown hs hl))
    rw [hstep, this]

/-- an execution ARN that is not in the executions store -/
theorem unknown_execution_refused (cfg : Cfg) (env : Env) (s : State) (p : Params) (earn : Str)
    (ha : arnArg validExecArn (arg p "executionArn") = .ok earn) (hl : lookup s.executions earn = none) :
    step cfg env s (req "DescribeExecution" p) = (s, .error (S "ExecutionDoesNotExist")) ∧
    step cfg env s (req "DescribeStateMachineForExecution" p) = (s, .error (S "ExecutionDoesNotExist")) := by
  dispatch
  constructor <;> simp only [decideKind, ha, hl, finish_error]

/-- UpdateStateMachine answered 200: the stored record differs from the old one only in the
fields supplied (a supplied role is stored verbatim, a supplied definition text is stored
decoded), `updateDate` is the clock, the answer carries it; every other record of either
store is untouched -/
theorem update_only_supplied (cfg : Cfg) (env : Env) (s : State) (p : Params) (body : Json)
    (h : (step cfg env s (req "UpdateStateMachine" p)).2 = .ok body) :
    ∃ arn m m', lookup s.machines arn = some m ∧
      lookup (step cfg env s (req "UpdateStateMachine" p)).1.machines arn = some m' ∧
      body = .obj [(S "updateDate", .num env.now)] ∧
      m'.name = m.name ∧ m'.type = m.type ∧ m'.creationDate = m.creationDate ∧
      m'.updateDate = env.now ∧
      (truthyArg (arg p "roleArn") = false → m'.roleArn = m.roleArn) ∧
      (truthyArg (arg p "roleArn") = true → arg p "roleArn" = some (.str m'.roleArn)) ∧
      (truthyArg (arg p "definition") = false → m'.definition = m.definition) ∧
      (truthyArg (arg p "definition") = true →
        ∃ t, arg p "definition" = some (.str t) ∧ parseJson t = some m'.definition) ∧
      ((cfg.logging && truthyArg (arg p "loggingConfiguration")) = false → m'.logging = m.logging) ∧
      (∀ k, k ≠ arn → lookup (step cfg env s (req "UpdateStateMachine" p)).1.machines k =
        lookup s.machines k) ∧
      (step cfg env s (req "UpdateStateMachine" p)).1.executions = s.executions := by
  obtain ⟨arn, m', hv, hstep⟩ := update_accepted h
  simp only [req, action_names] at h ⊢
  rw [hstep] at h ⊢
  obtain ⟨m, role, d, lc, _, hm, hr, hd, hlc, rfl⟩ := validateUpdate_ok hv
  obtain ⟨hr0, hr1⟩ := updRole_ok hr
  obtain ⟨hd0, hd1⟩ := updDefinition_ok hd
  obtain ⟨hl0, _⟩ := updLogging_ok hlc
  cases h
  -- the new record is the old one with four fields set: the untouched fields agree by `rfl`
  refine ⟨arn, m, _, hm, lookup_insert_same _ _ _, rfl, rfl, rfl, rfl, rfl, ?_, ?_, ?_, ?_, ?_,
    fun k hk => lookup_insert_ne _ _ _ _ (Ne.symm hk), rfl⟩
  · intro hf; rw [hr0 hf]; rfl
  · intro ht
    obtain ⟨x, hx, hax, _⟩ := hr1 ht
    rw [hx, hax]; rfl
  · intro hf; rw [hd0 hf]; rfl
  · intro ht
    obtain ⟨t, x, hx, hat, hp⟩ := hd1 ht
    exact ⟨t, hat, by rw [hx]; exact hp⟩
  · intro hf; rw [hl0 hf]

/-- with a clock that has moved on, `updateDate` advances -/
theorem update_advances_updateDate (cfg : Cfg) (env : Env) (s : State) (p : Params) (body : Json)
    (h : (step cfg env s (req "UpdateStateMachine" p)).2 = .ok body) :
    ∃ arn m m', lookup s.machines arn = some m ∧
      lookup (step cfg env s (req "UpdateStateMachine" p)).1.machines arn = some m' ∧
      (m.updateDate < env.now → m.updateDate < m'.updateDate) := by
  obtain ⟨arn, m, m', h1, h2, _, _, _, _, hu, _⟩ := update_only_supplied cfg env s p body h
  exact ⟨arn, m, m', h1, h2, fun hlt => by rw [hu]; exact hlt⟩

/-- DeleteStateMachine answered 200: the ARN is gone for every later lookup — Describe, Update,
a second Delete and ListExecutions answer StateMachineDoesNotExist, Create of it is no
duplicate — and every other record is untouched -/
theorem delete_visible (cfg : Cfg) (env env' : Env) (s : State) (p : Params)
    (h : (step cfg env s (req "DeleteStateMachine" p)).2 = .okEmpty) :
    ∃ arn, arnArg validSmArn (arg p "stateMachineArn") = .ok arn ∧
      (lookup s.machines arn).isSome = true ∧
      lookup (step cfg env s (req "DeleteStateMachine" p)).1.machines arn = none ∧
      step cfg env' (step cfg env s (req "DeleteStateMachine" p)).1 (req "DescribeStateMachine" p) =
        ((step cfg env s (req "DeleteStateMachine" p)).1, .error (S "StateMachineDoesNotExist")) ∧
      (∀ k, k ≠ arn → lookup (step cfg env s (req "DeleteStateMachine" p)).1.machines k =
        lookup s.machines k) ∧
      (step cfg env s (req "DeleteStateMachine" p)).1.executions = s.executions := by
  obtain ⟨arn, m, ha, hl, hstep⟩ := delete_accepted h
  simp only [req, action_names] at hstep ⊢
  rw [hstep]
  refine ⟨arn, ha, by simp [hl], lookup_erase_same _ _, ?_, ?_, rfl⟩
  · exact (unknown_refused cfg env' _ p arn ha (lookup_erase_same _ _)).2.2.1
  · exact fun k hk => lookup_erase_ne _ _ _ (Ne.symm hk)

theorem wf_empty : WF State.empty := by simp [WF, State.empty, keys]

theorem wf_apply (cfg : Cfg) (s : State) (ev : Event) (h : WF s) : WF (apply cfg s ev) :=
  (apply_refines cfg s ev h).2

theorem wf_run (cfg : Cfg) (s : State) (evs : List Event) (h : WF s) : WF (run cfg s evs) := by
  induction evs generalizing s with
  | nil => exact h
  | cons ev rest ih => exact ih _ (wf_apply cfg s ev h)

theorem reachable_wf (cfg : Cfg) (evs : List Event) : WF (run cfg State.empty evs) :=
  wf_run cfg _ evs wf_empty

/-- REFINEMENT.  For every configuration, every store content `s` with distinct keys and every
history `evs` of requests (any action, any body, each with its own clock / uuid / lint verdict /
broker verdict / engine answer) and engine writes (execution records, event logs), run side by
side from `s` and from the finite maps `abs s` it denotes:
* every response of the reference model is the answer of the specification `Spec.step` over the
  three finite maps — equal, except that a list answer is an enumeration without repetition of
  exactly the set of records the specification names (`Spec.Matches`);
* the reference model publishes exactly what the specification publishes;
and the stores after the history denote the specification's maps after it. -/
theorem api_refines_keyed_store_from (cfg : Cfg) (evs : List Event) (s : State) (h : WF s) :
    Refines cfg s (abs s) evs ∧ abs (run cfg s evs) = Spec.run cfg (abs s) evs := by
  induction evs generalizing s with
  | nil => exact ⟨trivial, rfl⟩
  | cons ev rest ih =>
    obtain ⟨ha, hw⟩ := apply_refines cfg s ev h
    obtain ⟨ih1, ih2⟩ := ih _ hw
    rw [ha] at ih1 ih2
    refine ⟨?_, ih2⟩
    cases ev with
    | call env c => exact ⟨(step_refines cfg env s c h).answer, (step_refines cfg env s c h).published, ih1⟩
    | engine arn e => exact ih1
    | engineLog arn log => exact ih1

/-- … in particular from the empty stores: every history the API can go through -/
theorem api_refines_keyed_store (cfg : Cfg) (evs : List Event) :
    Refines cfg State.empty Spec.State.empty evs ∧
    abs (run cfg State.empty evs) = Spec.run cfg Spec.State.empty evs :=
  api_refines_keyed_store_from cfg evs State.empty wf_empty

/-- the same at any point of any history: after `pre`, the next request is answered as the
specification answers it on the maps the stores denote (the form the corollaries below use) -/
theorem request_refines_after (cfg : Cfg) (pre : List Event) (env : Env) (c : Call) :
    let s := run cfg State.empty pre
    Spec.Matches (abs s) (step cfg env s c).2 (Spec.step cfg env (abs s) c).2.1 ∧
    published cfg env s c = (Spec.step cfg env (abs s) c).2.2 ∧
    abs (step cfg env s c).1 = (Spec.step cfg env (abs s) c).1 := by
  intro s
  have h := step_refines cfg env s c (reachable_wf cfg pre)
  exact ⟨h.answer, h.published, h.state⟩

/-- COROLLARY of the refinement.  ListStateMachines — whatever `maxResults` / `nextToken` or
other arguments it is given — never fails, changes nothing, publishes nothing, and answers one
page holding one summary per stored record: the listed (ARN, record) pairs are exactly the
pairs a lookup finds, each ARN once; there is no `nextToken` member. -/
theorem list_is_live_set (cfg : Cfg) (env : Env) (s : State) (p : Params) (h : WF s) :
    ∃ l : List (Str × Machine),
      step cfg env s (req "ListStateMachines" p) =
        (s, .ok (.obj [(S "stateMachines", .arr (l.map (fun kv => Machine.summary kv.1 kv.2)))])) ∧
      published cfg env s (req "ListStateMachines" p) = none ∧
      (l.map (·.1)).Nodup ∧ ∀ arn m, (arn, m) ∈ l ↔ lookup s.machines arn = some m := by
  obtain ⟨l, hr, hnd, hmem⟩ := answer_matches env s .machines h
  dispatch
  refine ⟨l, ?_, ?_, hnd, hmem⟩
  · simp only [decideKind, finish_ok, State.apply, hr]
  · simp only [published_name, decideKind]

/-- COROLLARY of the refinement.  ListExecutions of an existing machine — whatever `maxResults`
/ `nextToken` — answers one page listing exactly the execution records of that machine whose
status passes the filter: a record is listed iff a lookup finds it under its ARN, it belongs
to the machine, and (filter given and recognised) its status is the filter; each ARN once. -/
theorem list_executions_is_live_set (cfg : Cfg) (env : Env) (s : State) (p : Params) (arn : Str) (m : Machine)
    (h : WF s)
    (ha : arnArg validSmArn (arg p "stateMachineArn") = .ok arn) (hl : lookup s.machines arn = some m) :
    ∃ l : List (Str × Exec),
      step cfg env s (req "ListExecutions" p) =
        (s, .ok (.obj [(S "executions", .arr (l.map (fun kv => Exec.summary kv.1 kv.2)))])) ∧
      published cfg env s (req "ListExecutions" p) = none ∧
      (l.map (·.1)).Nodup ∧
      ∀ k e, (k, e) ∈ l ↔
        (lookup s.executions k = some e ∧ e.stateMachineArn = arn ∧
          ∀ f, statusFilter (arg p "statusFilter") = some f → f = .str e.status) := by
  obtain ⟨l, hr, hnd, hmem⟩ := answer_matches env s (.executions arn (statusFilter (arg p "statusFilter"))) h
  dispatch
  refine ⟨l, ?_, ?_, hnd, fun k e => (hmem k e).trans (and_congr_right fun _ => execMatches_iff arn _ e)⟩
  · simp only [decideKind, ha, hl, finish_ok, State.apply, hr]
  · simp only [published_name, decideKind, ha, hl]

/-- neither list action reads `maxResults` / `nextToken`: requests that agree on the
arguments that are read are answered alike -/
theorem list_ignores_paging (cfg : Cfg) (env : Env) (s : State) (p q : Params)
    (h1 : arg p "stateMachineArn" = arg q "stateMachineArn")
    (h2 : arg p "statusFilter" = arg q "statusFilter") :
    step cfg env s (req "ListStateMachines" p) = step cfg env s (req "ListStateMachines" q) ∧
    step cfg env s (req "ListExecutions" p) = step cfg env s (req "ListExecutions" q) := by
  dispatch
  simp only [decideKind, h1, h2, and_self]

/-- a request that changes any stored record is a Create, Update or Delete that was answered 200;
every other request — all reads, both starts, every refusal — leaves all three stores as they were -/
theorem only_writes_change_state (cfg : Cfg) (env : Env) (s : State) (c : Call)
    (h : (step cfg env s c).1 ≠ s) :
    (c.action = S "CreateStateMachine" ∨ c.action = S "UpdateStateMachine" ∨
      c.action = S "DeleteStateMachine") ∧ (step cfg env s c).2.isError = false ∧
    (step cfg env s c).1.executions = s.executions ∧ (step cfg env s c).1.histories = s.histories := by
  have ho := step_outcome cfg env s c
  generalize step cfg env s c = st, published cfg env s c = pub at ho h ⊢
  cases ho with
  | accepted k eff r ha hr _ hw =>
    refine ⟨?_, hr, by cases eff <;> rfl, by cases eff <;> rfl⟩
    rcases hw (fun e => h (by rw [e]; rfl)) with rfl | rfl | rfl <;> simp [ha, action_names]
  | _ => exact absurd rfl h

/-- the reads: DescribeStateMachine, DescribeStateMachineForExecution, ListStateMachines,
ListExecutions, DescribeExecution, GetExecutionHistory change nothing and publish nothing,
whatever they are given and whatever they answer -/
theorem reads_leave_state (cfg : Cfg) (env : Env) (s : State) (a : Str) (ps : Option Json)
    (ha : a ∈ [S "DescribeStateMachine", S "DescribeStateMachineForExecution", S "ListStateMachines",
               S "ListExecutions", S "DescribeExecution", S "GetExecutionHistory"]) :
    (step cfg env s ⟨a, ps⟩).1 = s ∧ published cfg env s ⟨a, ps⟩ = none := by
  simp only [action_names, List.mem_cons, List.not_mem_nil, or_false] at ha
  rcases ha with h | h | h | h | h | h <;> exact h ▸ step_read cfg env s ps _ rfl

/-- an execution with a (non-empty) stored log: the answer is the log itself, first event
first — or, with a truthy `reverseOrder`, exactly its reverse; one page, no `nextToken` -/
theorem history_is_stored_log (cfg : Cfg) (env : Env) (s : State) (p : Params) (earn : Str)
    (ev : Json) (log : List Json)
    (ha : arnArg validExecArn (arg p "executionArn") = .ok earn)
    (hl : lookup s.histories earn = some (ev :: log)) :
    step cfg env s (req "GetExecutionHistory" p) =
      (s, .ok (.obj [(S "events",
        .arr (if truthyArg (arg p "reverseOrder") then (ev :: log).reverse else ev :: log))])) := by
  dispatch
  simp only [decideKind, ha, hl, finish_ok, Verdict.read, State.apply, State.answer]

/-- an execution without a log (never started, EXPRESS, or — as the code reads it — an empty log)
is refused as ExecutionDoesNotExist; a missing / falsy ARN argument as MissingRequiredParameter,
any other value that is not an execution ARN as InvalidArn; the stores stay as they were -/
theorem history_unknown_refused (cfg : Cfg) (env : Env) (s : State) (p : Params) :
    (∀ earn, arnArg validExecArn (arg p "executionArn") = .ok earn →
      (lookup s.histories earn = none ∨ lookup s.histories earn = some []) →
      step cfg env s (req "GetExecutionHistory" p) = (s, .error (S "ExecutionDoesNotExist"))) ∧
    (∀ e, arnArg validExecArn (arg p "executionArn") = .error e →
      step cfg env s (req "GetExecutionHistory" p) = (s, .error e) ∧
      (e = S "MissingRequiredParameter" ∨ e = S "InvalidArn")) ∧
    (truthyArg (arg p "executionArn") = false →
      step cfg env s (req "GetExecutionHistory" p) = (s, .error (S "MissingRequiredParameter"))) := by
  dispatch
  refine ⟨?_, ?_, ?_⟩
  · intro earn ha hl
    rcases hl with hl | hl <;> simp only [decideKind, ha, hl, finish_error]
  · intro e ha
    refine ⟨?_, arnArg_error ha⟩
    simp only [decideKind, ha, finish_error]
  · intro hf
    simp only [decideKind, arnArg_missing hf, finish_error]

/-- reverse = exact reverse of forward: two requests for the same execution, one without
(falsy) and one with (truthy) `reverseOrder`, at any two clocks on the same stores — when the
first is answered with events `l` the second is answered with `l.reverse`, and vice versa -/
theorem history_reverse_is_reverse (cfg : Cfg) (env env' : Env) (s : State) (p q : Params) (l : List Json)
    (hsame : arg p "executionArn" = arg q "executionArn")
    (hp : truthyArg (arg p "reverseOrder") = false) (hq : truthyArg (arg q "reverseOrder") = true) :
    ((step cfg env s (req "GetExecutionHistory" p)).2 = .ok (.obj [(S "events", .arr l)]) →
      step cfg env' s (req "GetExecutionHistory" q) = (s, .ok (.obj [(S "events", .arr l.reverse)]))) ∧
    ((step cfg env' s (req "GetExecutionHistory" q)).2 = .ok (.obj [(S "events", .arr l)]) →
      step cfg env s (req "GetExecutionHistory" p) = (s, .ok (.obj [(S "events", .arr l.reverse)]))) := by
  dispatch
  simp only [decideKind, ← hsame, hp, hq]
  cases arnArg validExecArn (arg p "executionArn") with
  | error e => simp [finish_error]
  | ok earn =>
    dsimp only
    cases lookup s.histories earn with
    | none => simp [finish_error]
    | some log =>
      cases log with
      | nil => simp [finish_error]
      | cons ev log =>
        simp only [finish_ok, Verdict.read, State.apply, State.answer, Bool.false_eq_true, if_false, if_true]
        constructor <;> (intro h; cases h; simp)

/-- every refusal of StartSyncExecution carries one of six documented types, leaves all stores
as they were and publishes nothing; on the blocking front end the action does not exist -/
theorem start_sync_refusal (cfg : Cfg) (env : Env) (s : State) (p : Params) :
    (∀ t, (step cfg env s (req "StartSyncExecution" p)).2 = .error t →
      t ∈ [S "MissingRequiredParameter", S "InvalidArn", S "InvalidName", S "InvalidExecutionInput",
           S "StateMachineDoesNotExist", S "StateMachineTypeNotSupported"]) ∧
    ((step cfg env s (req "StartSyncExecution" p)).2.isRefusal = true →
      (step cfg env s (req "StartSyncExecution" p)).1 = s ∧
      published cfg env s (req "StartSyncExecution" p) = none) ∧
    (cfg.logging = false → step cfg env s (req "StartSyncExecution" p) = (s, .invalidAction)) := by
  refine ⟨?_, ?_, ?_⟩
  · intro t h
    simp only [req, action_names, step_name, decideKind] at h
    cases hc : cfg.logging with
    | false => simp [hc, finish_none] at h
    | true =>
      simp only [hc, Bool.not_true, Bool.false_eq_true, if_false] at h
      cases hv : validateStartSync env (lookup s.machines) p with
      | error e =>
        simp only [hv, finish_error, Response.error.injEq] at h
        rw [← h]
        exact validateStartSync_error hv
      | ok x =>
        simp only [hv, finish_ok, startVerdict] at h
        split at h
        · simp [State.answer] at h
        · rcases answer_sync env s with ⟨ha, _⟩ | ⟨d, ha, _⟩ <;> rw [ha] at h <;> cases h
  · intro h
    exact ⟨error_leaves_state cfg env s _ (Response.isError_of_isRefusal _ h),
      error_publishes_nothing cfg env s _ h⟩
  · intro hc
    dispatch
    simp only [decideKind, hc]
    rfl

/-- an existing machine that is not EXPRESS: refused with StateMachineTypeNotSupported (once
ARN, name and input are acceptable), nothing changes, nothing is published — while
StartExecution of the same arguments is accepted -/
theorem start_sync_needs_express (cfg : Cfg) (env : Env) (s : State) (p : Params)
    (x : Str × Str × Json × Str × Machine) (hc : cfg.logging = true)
    (hv : validateStart env (lookup s.machines) p = .ok x) (ht : x.2.2.2.2.type ≠ S "EXPRESS") :
    step cfg env s (req "StartSyncExecution" p) = (s, .error (S "StateMachineTypeNotSupported")) ∧
    published cfg env s (req "StartSyncExecution" p) = none ∧
    (env.publishFails = false → published cfg env s (req "StartExecution" p) = some (startEvent true x)) := by
  obtain ⟨earn, name, input, arn, m⟩ := x
  have hs := validateStartSync_standard hv ht
  have hstep : step cfg env s (req "StartSyncExecution" p) = (s, .error (S "StateMachineTypeNotSupported")) := by
    dispatch
    simp only [decideKind, hc, hs]
    rfl
  refine ⟨hstep, error_publishes_nothing cfg env s _ (by rw [hstep]; rfl), ?_⟩
  intro hb
  simp only [req, action_names, published_name, decideKind, hv, startVerdict, hb]
  rfl

/-- an accepted StartSyncExecution (asyncio front end, arguments acceptable, EXPRESS machine,
broker up): the stores stay as they were, the start event goes to this instance's own queue
(`shared = false`) and carries the execution ARN formed from the machine ARN and the name;
the answer is the engine's, or 408 when the timer fired first -/
theorem start_sync_accepted (cfg : Cfg) (env : Env) (s : State) (p : Params)
    (x : Str × Str × Json × Str × Machine) (hc : cfg.logging = true) (hb : env.publishFails = false)
    (hv : validateStartSync env (lookup s.machines) p = .ok x) :
    (step cfg env s (req "StartSyncExecution" p)).1 = s ∧
    published cfg env s (req "StartSyncExecution" p) = some (startEvent false x) ∧
    (∀ d, env.syncOutcome = some d → (step cfg env s (req "StartSyncExecution" p)).2 = .ok d) ∧
    (env.syncOutcome = none → (step cfg env s (req "StartSyncExecution" p)).2 = .timedOut) ∧
    validateStart env (lookup s.machines) p = .ok x ∧ x.2.2.2.2.type = S "EXPRESS" := by
  have hd : decideKind cfg env (lookup s.machines) (lookup s.executions) (lookup s.histories) p .startSync =
      some (.ok ⟨.none, .sync, some (startEvent false x)⟩) := by
    simp only [decideKind, hc, Bool.not_true, Bool.false_eq_true, if_false, hv, startVerdict, hb]
  have hstep : step cfg env s (req "StartSyncExecution" p) = (s, s.answer env .sync) := by
    dispatch
    simp only [hd, finish_ok, State.apply]
  rw [hstep]
  refine ⟨rfl, ?_, fun d ho => ?_, fun ho => ?_, validateStartSync_ok hv⟩
  · simp only [req, action_names, published_name, hd]
  all_goals simp only [State.answer, ho]

/-- the recognised filters: a status name selects that status, nothing / null / an
unrecognised value selects every status -/
theorem status_filter_cases (a : Option Json) :
    (∀ f, f ∈ statusNames → statusFilter (some (.str f)) = some (.str f)) ∧
    statusFilter none = none ∧ statusFilter (some .null) = none ∧
    (∀ f, f ∉ statusNames → f ≠ [] → statusFilter (some (.str f)) = none) := by
  refine ⟨?_, rfl, rfl, ?_⟩
  · intro f hf
    simp [statusFilter, Json.truthy, hf]
  · intro f hf hne
    simp [statusFilter, Json.truthy, hf, hne]

/-! ### DescribeStateMachineForExecution follows the link of the execution record -/

theorem describe_for_execution_links (cfg : Cfg) (env : Env) (s : State) (p : Params)
    (earn : Str) (e : Exec) (m : Machine)
    (ha : arnArg validExecArn (arg p "executionArn") = .ok earn)
    (he : lookup s.executions earn = some e) (hv : validSmArn e.stateMachineArn = true)
    (hm : lookup s.machines e.stateMachineArn = some m) :
    step cfg env s (req "DescribeStateMachineForExecution" p) =
      (s, .ok (m.forExecution e.stateMachineArn)) ∧
    step cfg env s (req "DescribeExecution" p) = (s, .ok (e.toJson earn)) := by
  dispatch
  constructor
  · simp only [decideKind, ha, he, hv, Bool.not_true, Bool.false_eq_true, if_false, hm, finish_ok, Verdict.read,
      State.apply, State.answer]
  · simp only [decideKind, ha, he, finish_ok, Verdict.read, State.apply, State.answer]

/-- … and when the link dangles: an execution record whose `stateMachineArn` is not a
state-machine ARN is answered InvalidArn, one whose machine is gone (deleted since, or never
there) StateMachineDoesNotExist — the stores stay as they were, and DescribeExecution still
answers the record -/
theorem describe_for_execution_dangling (cfg : Cfg) (env : Env) (s : State) (p : Params)
    (earn : Str) (e : Exec)
    (ha : arnArg validExecArn (arg p "executionArn") = .ok earn)
    (he : lookup s.executions earn = some e) :
    (validSmArn e.stateMachineArn = false →
      step cfg env s (req "DescribeStateMachineForExecution" p) = (s, .error (S "InvalidArn"))) ∧
    (validSmArn e.stateMachineArn = true → lookup s.machines e.stateMachineArn = none →
      step cfg env s (req "DescribeStateMachineForExecution" p) =
        (s, .error (S "StateMachineDoesNotExist"))) ∧
    step cfg env s (req "DescribeExecution" p) = (s, .ok (e.toJson earn)) := by
  dispatch
  refine ⟨?_, ?_, ?_⟩
  · intro hv
    simp only [decideKind, ha, he, hv, Bool.not_false, if_true, finish_error]
  · intro hv hm
    simp only [decideKind, ha, he, hv, hm, Bool.not_true, Bool.false_eq_true, if_false, finish_error]
  · simp only [decideKind, ha, he, finish_ok, Verdict.read, State.apply, State.answer]

/-! ### non-vacuity: the hypotheses above are met by concrete, non-trivial requests -/

private def cfg0 : Cfg := { region := S "local", validateAsl := false, logging := true }
private def cfgB : Cfg := { region := S "local", validateAsl := false, logging := false }
private def env0 : Env := { now := 1000, fresh := S "uuid-0", lintBad := false }
private def env1 : Env := { now := 1007, fresh := S "uuid-1", lintBad := false }
/-- the broker refuses the start message -/
private def envDown : Env := { now := 1007, fresh := S "uuid-1", lintBad := false, publishFails := true }
/-- the engine hands an execution detail back to a synchronous start -/
private def envDone : Env :=
  { now := 1007, fresh := S "uuid-1", lintBad := false,
    syncOutcome := some (.obj [(S "status", jstr "SUCCEEDED"), (S "output", jstr "{}")]) }
private def role0 : Str := S "arn:aws:iam::0123456789:role/r"
private def role1 : Str := S "arn:aws:iam::42:role/x"
private def arn0 : Str := S "arn:aws:states:local:0123456789:stateMachine:m1"
private def arnX : Str := S "arn:aws:states:local:0123456789:stateMachine:x1"
private def earn0 : Str := S "arn:aws:states:local:0123456789:execution:m1:e1"
private def defText : Str := S "{\"StartAt\": \"S\", \"States\": {\"S\": {\"Type\": \"Succeed\"}}}"
private def pCreate : Params :=
  [(S "name", .str (S "m1")), (S "roleArn", .str role0), (S "definition", .str defText)]
private def pCreateX : Params :=
  [(S "name", .str (S "x1")), (S "roleArn", .str role0), (S "definition", .str defText),
   (S "type", jstr "EXPRESS")]
private def pArn : Params := [(S "stateMachineArn", .str arn0)]
private def pArnX : Params := [(S "stateMachineArn", .str arnX), (S "name", .str (S "e9"))]
private def pExec : Params := [(S "executionArn", .str earn0)]
private def pExecRev : Params := [(S "executionArn", .str earn0), (S "reverseOrder", .bool true)]
/-- the store after one successful CreateStateMachine -/
private def s1 : State := (step cfg0 env0 State.empty (req "CreateStateMachine" pCreate)).1
private def evs0 : List Json :=
  [.obj [(S "id", .num 1), (S "type", jstr "ExecutionStarted")],
   .obj [(S "id", .num 2), (S "type", jstr "SucceedStateEntered")],
   .obj [(S "id", .num 3), (S "type", jstr "ExecutionSucceeded")]]
/-- … and after the engine recorded a finished execution of it and its event log -/
private def s2 : State :=
  engineLog
    (engineWrite s1 earn0 ⟨S "e1", arn0, S "SUCCEEDED", jstr "{}", jstr "{}", 1003, .num 1004, []⟩)
    earn0 evs0
/-- … and with an EXPRESS machine next to the STANDARD one -/
private def s3 : State := (step cfg0 env1 s2 (req "CreateStateMachine" pCreateX)).1
/-- the witness of finding C10-F1: a valid role next to an undecodable definition -/
private def pBadUpdate : Params :=
  [(S "stateMachineArn", .str arn0), (S "roleArn", .str role1), (S "definition", .str (S "{bad"))]

-- `decide` can neither find the witness of an `∃` nor compare `Except` values (no instance): these test instead.
-- One `decide +kernel` per example (`suffices` collects what it evaluates): to the kernel each call is a declaration of its
-- own, which decodes the model's string literals again.
private def okIs {α : Type} [DecidableEq α] (x : Except Str α) (v : α) : Bool :=
  match x with
  | .ok a => a = v
  | .error _ => false
private theorem okIs_eq {α : Type} [DecidableEq α] (x : Except Str α) (v : α) (h : okIs x v = true) :
    x = .ok v := by
  cases x <;> simp_all [okIs]
private def errIs {α : Type} (x : Except Str α) (v : Str) : Bool :=
  match x with
  | .ok _ => false
  | .error e => e = v
private theorem errIs_eq {α : Type} (x : Except Str α) (v : Str) (h : errIs x v = true) :
    x = .error v := by
  cases x <;> simp_all [errIs]
private theorem ex_of_any {α : Type} (o : Option α) (P : α → Bool) (h : o.any P = true) :
    ∃ a, o = some a ∧ P a = true := by
  cases o <;> simp_all
private def okAny {α : Type} (x : Except Str α) (P : α → Bool) : Bool :=
  match x with
  | .ok a => P a
  | .error _ => false
private theorem ex_of_okAny {α : Type} (x : Except Str α) (P : α → Bool) (h : okAny x P = true) :
    ∃ a, x = .ok a ∧ P a = true := by
  cases x <;> simp_all [okAny]

/-- `arn0` as a character list, by `rw`: `String.toList` on a literal is quadratic for `decide +kernel` to evaluate -/
private def arn0c : {l : Str // arn0 = l} := ⟨_, by rw [arn0, S, String.toList_ofList]⟩
private def arnXc : {l : Str // arnX = l} := ⟨_, by rw [arnX, S, String.toList_ofList]⟩
private def earn0c : {l : Str // earn0 = l} := ⟨_, by rw [earn0, S, String.toList_ofList]⟩
private def role0c : {l : Str // role0 = l} := ⟨_, by rw [role0, S, String.toList_ofList]⟩
private def role1c : {l : Str // role1 = l} := ⟨_, by rw [role1, S, String.toList_ofList]⟩
private def defTextc : {l : Str // defText = l} := ⟨_, by rw [defText, S, String.toList_ofList]⟩

private def mDef : Json :=
  .obj [(S "StartAt", .str (S "S")), (S "States", .obj [(S "S", .obj [(S "Type", .str (S "Succeed"))])])]
private def m1 : Machine := ⟨S "m1", role0, mDef, some (.obj [(S "level", jstr "OFF")]), S "STANDARD", 1000, 1000⟩
private def mX : Machine := ⟨S "x1", role0, mDef, some (.obj [(S "level", jstr "OFF")]), S "EXPRESS", 1007, 1007⟩
private def e1 : Exec := ⟨S "e1", arn0, S "SUCCEEDED", jstr "{}", jstr "{}", 1003, .num 1004, []⟩

/-- puts the character lists above in the place of the long texts before the kernel evaluates the goal -/
local macro "chars" : tactic => `(tactic|
  simp only [pCreate, pCreateX, pArn, pArnX, pExec, pExecRev, pBadUpdate, m1, mX, e1,
    arn0c.2, arnXc.2, earn0c.2, role0c.2, role1c.2, defTextc.2])

private theorem create0 : validateCreate cfg0 env0 (lookup State.empty.machines) pCreate = .ok (arn0, m1) := by
  chars; exact okIs_eq _ _ (by decide +kernel)
private theorem s1_eq : s1 = ⟨[(arn0, m1)], [], []⟩ := by
  rw [s1]; dispatch
  simp only [decideKind, create0, finish_ok]
  rfl
private theorem s2_eq : s2 = ⟨[(arn0, m1)], [(earn0, e1)], [(earn0, evs0)]⟩ := by
  rw [s2, s1_eq]; rfl
/-- for `s1` and `s2` alike -/
private theorem badUpdate0 (s : State) (h : s.machines = [(arn0, m1)]) :
    validateUpdate cfg0 env1 (lookup s.machines) pBadUpdate = .error (S "InvalidDefinition") := by
  rw [h]; chars; exact errIs_eq _ _ (by decide +kernel)
private theorem s3_eq : s3 = ⟨[(arn0, m1), (arnX, mX)], [(earn0, e1)], [(earn0, evs0)]⟩ := by
  rw [s3, s2_eq]; dispatch; chars; decide +kernel

/-- the recorded deviation (finding C10-F5), formally: with the switch on, a create is answered
200 with an ARN that DescribeStateMachine refuses — `create_then_describe` fails -/
theorem unchecked_arn_breaks_create_then_describe :
    ∃ (cfg : Cfg) (env : Env) (p : Params) (arn : Str),
      cfg.quirks.createUncheckedArn = true ∧
      (step cfg env State.empty (req "CreateStateMachine" p)).2 =
        .ok (.obj [(S "creationDate", .num env.now), (S "stateMachineArn", .str arn)]) ∧
      (step cfg env (step cfg env State.empty (req "CreateStateMachine" p)).1
        (req "DescribeStateMachine" [(S "stateMachineArn", .str arn)])).2 = .error (S "InvalidArn") := by
  refine ⟨⟨S "local", false, true, ⟨true⟩⟩, ⟨1000, S "u", false, false, none⟩,
    [(S "name", .str (S "m1")),
     (S "roleArn", .str (S "arn:aws:iam::" ++ List.replicate 230 '1' ++ S ":role/r")),
     (S "definition", .str defTextc.1)],
    S "arn:aws:states:local:" ++ List.replicate 230 '1' ++ S ":stateMachine:m1", rfl, ?_⟩
  dispatch
  decide +kernel

-- create_then_describe / create_twice_refused: the switch is off, the create is accepted, and
-- the request that describes the returned ARN exists
example : cfg0.quirks.createUncheckedArn = false ∧
    (step cfg0 env0 State.empty (req "CreateStateMachine" pCreate)).2 =
      .ok (.obj [(S "creationDate", .num 1000), (S "stateMachineArn", .str arn0)]) ∧
    arg pArn "stateMachineArn" = some (.str arn0) := by
  refine ⟨rfl, ?_, ?_⟩
  · dispatch; simp only [decideKind, create0, finish_ok]; rfl
  · chars; decide +kernel

-- create_stores_arguments
example : ∃ x, validateCreate cfg0 env0 (lookup State.empty.machines) pCreate = .ok x ∧
    (x.1 = arn0 && x.2.definition.truthy) = true :=
  ⟨_, create0, by simp [m1, mDef, Json.truthy]⟩

-- duplicate_refused
example : (∃ x, createKey cfg0 pCreate = .ok x ∧ decide (x.1 = arn0) = true) ∧
    (lookup s1.machines arn0).isSome = true :=
  ⟨⟨_, (validateCreate_ok create0).1, by simp⟩, by rw [s1_eq]; simp [lookup]⟩

-- error_leaves_state / error_publishes_nothing / history_errors_are_noops, on a store that has
-- something to lose: the update is refused (InvalidDefinition) although its role is valid
example : step cfg0 env1 s1 (req "UpdateStateMachine" pBadUpdate) = (s1, .error (S "InvalidDefinition")) ∧
    (step cfg0 env1 s1 (req "UpdateStateMachine" pBadUpdate)).2.isError = true ∧
    (step cfg0 env1 s1 (req "UpdateStateMachine" pBadUpdate)).2.isRefusal = true ∧
    s1.machines ≠ [] := by
  have h : step cfg0 env1 s1 (req "UpdateStateMachine" pBadUpdate) = (s1, .error (S "InvalidDefinition")) := by
    dispatch; simp only [decideKind, badUpdate0 s1 (by rw [s1_eq]), finish_error]
  exact ⟨h, by rw [h]; rfl, by rw [h]; rfl, by rw [s1_eq]; simp⟩

-- timed_out_only_sync / start_sync_accepted: an EXPRESS machine, the engine silent / answering
example : (step cfg0 env1 s3 (req "StartSyncExecution" pArnX)).2 = .timedOut ∧
    (step cfg0 envDone s3 (req "StartSyncExecution" pArnX)).2 =
      .ok (.obj [(S "status", jstr "SUCCEEDED"), (S "output", jstr "{}")]) ∧
    cfg0.logging = true ∧ env1.publishFails = false ∧
    (∃ x, validateStartSync env1 (lookup s3.machines) pArnX = .ok x ∧
      decide (x.1 = S "arn:aws:states:local:0123456789:execution:x1:e9") = true) := by
  rw [s3_eq]; dispatch; chars
  suffices h : _ ∧ _ ∧ _ from ⟨h.1, h.2.1, rfl, rfl, ex_of_okAny _ _ h.2.2⟩
  decide +kernel

-- internal_error_only_failed_publish (and the hypothesis of no_internal_error is what fails here)
example : (step cfg0 envDown s1 (req "StartExecution" pArn)).2 = .internalError ∧
    (step cfg0 env1 s1 (req "StartExecution" pArn)).2 ≠ .internalError ∧
    env1.publishFails = false := by
  rw [s1_eq]; dispatch; chars; decide +kernel

-- start_sync_refusal / start_sync_needs_express: the STANDARD machine m1; the blocking front end
example : (step cfg0 env1 s3 (req "StartSyncExecution" pArn)).2 = .error (S "StateMachineTypeNotSupported") ∧
    (step cfg0 env1 s3 (req "StartSyncExecution" pArn)).2.isRefusal = true ∧
    cfgB.logging = false ∧
    (∃ x, validateStart env1 (lookup s3.machines) pArn = .ok x ∧
      decide (x.2.2.2.2.type ≠ S "EXPRESS") = true) := by
  rw [s3_eq]; dispatch; chars
  suffices h : _ ∧ _ ∧ _ from ⟨h.1, h.2.1, rfl, ex_of_okAny _ _ h.2.2⟩
  decide +kernel

-- only_writes_change_state: the accepted create did change the store
example : (step cfg0 env0 State.empty (req "CreateStateMachine" pCreate)).1 ≠ State.empty := by
  rw [← s1, s1_eq]; decide +kernel

-- reads_leave_state speaks about every body and state; its action list is what it says
example : S "GetExecutionHistory" ∈ [S "DescribeStateMachine", S "DescribeStateMachineForExecution",
    S "ListStateMachines", S "ListExecutions", S "DescribeExecution", S "GetExecutionHistory"] := by
  simp only [List.mem_cons, true_or, or_true]

-- history_is_stored_log / history_reverse_is_reverse on s2: three events, forward and reversed
example : arnArg validExecArn (arg pExec "executionArn") = .ok earn0 ∧
    lookup s2.histories earn0 = some evs0 ∧ evs0.length = 3 ∧
    arg pExec "executionArn" = arg pExecRev "executionArn" ∧
    truthyArg (arg pExec "reverseOrder") = false ∧ truthyArg (arg pExecRev "reverseOrder") = true ∧
    (step cfg0 env1 s2 (req "GetExecutionHistory" pExec)).2 = .ok (.obj [(S "events", .arr evs0)]) ∧
    (step cfg0 env1 s2 (req "GetExecutionHistory" pExecRev)).2 =
      .ok (.obj [(S "events", .arr evs0.reverse)]) ∧ evs0.reverse ≠ evs0 := by
  rw [s2_eq]; dispatch; chars
  suffices h : _ ∧ _ from ⟨okIs_eq _ _ h.1, h.2⟩
  decide +kernel

-- history_unknown_refused: a well-formed ARN without a log (s1), a malformed one, a missing one
example : arnArg validExecArn (arg pExec "executionArn") = .ok earn0 ∧ lookup s1.histories earn0 = none ∧
    arnArg validExecArn (arg [(S "executionArn", jstr "junk")] "executionArn") = .error (S "InvalidArn") ∧
    truthyArg (arg [] "executionArn") = false := by
  rw [s1_eq]; chars
  suffices h : _ ∧ _ ∧ _ ∧ _ from ⟨okIs_eq _ _ h.1, h.2.1, errIs_eq _ _ h.2.2.1, h.2.2.2⟩
  decide +kernel

-- unknown_refused / unknown_start_refused (empty store), unknown_execution_refused (s1)
example : arnArg validSmArn (arg pArn "stateMachineArn") = .ok arn0 ∧
    lookup State.empty.machines arn0 = none ∧
    arnArg validExecArn (arg pExec "executionArn") = .ok earn0 ∧ lookup s1.executions earn0 = none ∧
    startArgs env1 pArn = .ok (arn0, S "uuid-1", .obj []) := by
  rw [s1_eq]; chars
  suffices h : _ ∧ _ ∧ _ ∧ _ ∧ _ from
    ⟨okIs_eq _ _ h.1, h.2.1, okIs_eq _ _ h.2.2.1, h.2.2.2.1, okIs_eq _ _ h.2.2.2.2⟩
  decide +kernel

-- update_only_supplied / update_advances_updateDate: only the role is supplied, the clock moved
example : (step cfg0 env1 s1 (req "UpdateStateMachine"
      [(S "stateMachineArn", .str arn0), (S "roleArn", .str role1)])).2 =
    .ok (.obj [(S "updateDate", .num 1007)]) ∧
    truthyArg (arg [(S "stateMachineArn", .str arn0), (S "roleArn", .str role1)] "definition") = false ∧
    (∃ m, lookup s1.machines arn0 = some m ∧ decide (m.updateDate < env1.now) = true) := by
  rw [s1_eq]; dispatch; chars
  suffices h : _ ∧ _ ∧ _ from ⟨h.1, h.2.1, ex_of_any _ _ h.2.2⟩
  decide +kernel

-- delete_visible
example : (step cfg0 env1 s1 (req "DeleteStateMachine" pArn)).2 = .okEmpty := by
  rw [s1_eq]; dispatch; chars; decide +kernel

-- api_refines_keyed_store(_from) / request_refines_after quantify over every history; a history
-- that exercises writes, engine writes, a refusal and both list answers, ending in a store that
-- holds two machines, one execution and its log
private def hist0 : List Event :=
  [.call env0 (req "CreateStateMachine" pCreate),
   .engine earn0 ⟨S "e1", arn0, S "SUCCEEDED", jstr "{}", jstr "{}", 1003, .num 1004, []⟩,
   .engineLog earn0 evs0,
   .call env1 (req "UpdateStateMachine" pBadUpdate),
   .call env1 (req "CreateStateMachine" pCreateX),
   .call env1 (req "ListStateMachines" []),
   .call env1 (req "ListExecutions" pArn)]
example : run cfg0 State.empty hist0 = s3 ∧ keys s3.machines = [arn0, arnX] ∧
    keys s3.executions = [earn0] ∧ WF (run cfg0 State.empty hist0) := by
  refine ⟨?_, ?_, ?_, reachable_wf cfg0 hist0⟩
  · -- the writes are those that `s1`, `s2`, `s3` are made of; the refused update and the two lists change nothing
    rw [hist0]
    repeat rw [run, apply]
    rw [run, (reads_leave_state cfg0 env1 _ (S "ListExecutions") _ (by simp only [List.mem_cons, true_or, or_true])).1,
      (reads_leave_state cfg0 env1 _ (S "ListStateMachines") _ (by simp only [List.mem_cons, true_or, or_true])).1,
      ← s1, ← s2, error_leaves_state cfg0 env1 s2 _
        (by dispatch; simp only [decideKind, badUpdate0 s2 (by rw [s2_eq]), finish_error]; rfl), ← s3]
  · rw [s3_eq]; simp only [keys, List.map]
  · rw [s3_eq]; simp only [keys, List.map]

-- list_is_live_set / list_executions_is_live_set / list_ignores_paging / describe_for_execution_links on s2
example : WF s2 ∧ keys s2.machines = [arn0] ∧
    arnArg validSmArn (arg pArn "stateMachineArn") = .ok arn0 ∧ (lookup s2.machines arn0).isSome = true ∧
    (listExecutions s2 arn0 (statusFilter (some (jstr "SUCCEEDED")))).length = 1 ∧
    listExecutions s2 arn0 (statusFilter (some (jstr "FAILED"))) = [] ∧
    arg pArn "statusFilter" = arg ((S "maxResults", .num 1) :: (S "nextToken", jstr "t") :: pArn) "statusFilter" ∧
    arg pArn "stateMachineArn" =
      arg ((S "maxResults", .num 1) :: (S "nextToken", jstr "t") :: pArn) "stateMachineArn" ∧
    arnArg validExecArn (arg pExec "executionArn") = .ok earn0 ∧
    (∃ e, lookup s2.executions earn0 = some e ∧
      (validSmArn e.stateMachineArn && (lookup s2.machines e.stateMachineArn).isSome) = true) := by
  rw [s2_eq]; chars
  suffices h : (_ ∧ _) ∧ _ ∧ _ ∧ _ ∧ _ ∧ _ ∧ _ ∧ _ ∧ _ ∧ _ from
    let ⟨hw, h1, h2, h3, h4, h5, h6, h7, h8, h9⟩ := h
    ⟨hw, h1, okIs_eq _ _ h2, h3, h4, h5, h6, h7, okIs_eq _ _ h8, ex_of_any _ _ h9⟩
  decide +kernel

-- describe_for_execution_dangling: the machine of the recorded execution has been deleted
example : (∃ e, lookup (step cfg0 env1 s2 (req "DeleteStateMachine" pArn)).1.executions earn0 = some e ∧
      (validSmArn e.stateMachineArn &&
        (lookup (step cfg0 env1 s2 (req "DeleteStateMachine" pArn)).1.machines e.stateMachineArn).isNone) = true) ∧
    validSmArn (S "junk") = false := by
  rw [s2_eq]; dispatch; chars
  suffices h : _ ∧ _ from ⟨ex_of_any _ _ h.1, h.2⟩
  decide +kernel

-- no_internal_error speaks about every request; the witness of finding C10-F2:
example : (step cfg0 env1 s1 ⟨S "DescribeExecution", some (.num 5)⟩).2 =
    .error (S "SerializationException") ∧ env1.publishFails = false := ⟨rfl, rfl⟩

end Asl.C10
