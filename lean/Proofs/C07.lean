/-
C07 — Retry and Catch follow the States Language error-handling policy.
-/
import AslModel.Retry
import AslModel.Interp
import AslModel.Lite
import Proofs.Lemmas.RunEqs
import Proofs.Lemmas.Retry
namespace Asl.C07
open Asl

/-- the retriers are scanned in order and the first whose ErrorEquals matches decides — whether or
not it has attempts left -/
theorem first_matching_retrier_decides (pre post : List Retrier) (r : Retrier) (e : Str) (n : Nat)
    (hpre : ∀ p ∈ pre, errMatches p.errorEquals e = false) (hr : errMatches r.errorEquals e = true) :
    scanRetriers (pre ++ r :: post) e n =
      if n < r.maxAttempts then .retry (retryDelay r n) (n + 1) else .exhausted := by
  rw [scanRetriers_append hpre, scanRetriers, if_pos hr]

theorem no_retrier_applies (rs : List Retrier) (e : Str) (n : Nat)
    (h : ∀ p ∈ rs, errMatches p.errorEquals e = false) : scanRetriers rs e n = .noMatch := by
  rw [← List.append_nil rs, scanRetriers_append h]
  rfl

/-- the k-th retry (k = number of earlier retries) waits IntervalSeconds × BackoffRate^k seconds -/
theorem kth_retry_delay (r : Retrier) (k : Nat) : retryDelay r k = r.interval * r.backoff ^ k := rfl

/-- BackoffRate is clamped to at least 1 and the defaults are 1 s / 3 attempts / 2.0 -/
theorem backoff_at_least_one (j : Json) : 1 ≤ (retrierOf j).backoff := by
  unfold retrierOf
  split
  · simp only
    split
    · exact Rat.le_refl
    · rename_i h; exact Rat.not_lt.mp h
  · decide

theorem retrier_defaults : (retrierOf (.obj [(S "ErrorEquals", .arr [.str (S "States.ALL")])])).interval = 1 ∧
    (retrierOf (.obj [(S "ErrorEquals", .arr [.str (S "States.ALL")])])).maxAttempts = 3 ∧
    (retrierOf (.obj [(S "ErrorEquals", .arr [.str (S "States.ALL")])])).backoff = 2 := by decide +kernel

/-- MaxAttempts 0 means never -/
theorem maxAttempts_zero_never (pre post : List Retrier) (r : Retrier) (e : Str) (n : Nat)
    (hpre : ∀ p ∈ pre, errMatches p.errorEquals e = false) (hr : errMatches r.errorEquals e = true)
    (h0 : r.maxAttempts = 0) : scanRetriers (pre ++ r :: post) e n = .exhausted := by
  rw [first_matching_retrier_decides pre post r e n hpre hr, h0]; simp

/-- run of one state visit over a sequence of failures: the retry count after each decision, and how
many re-runs were granted (the run stops at the first failure that is not retried) -/
def retriesGranted (rs : List Retrier) : List Str → Nat → Nat
  | [], _ => 0
  | e :: es, n => match scanRetriers rs e n with
    | .retry _ n' => 1 + retriesGranted rs es n'
    | _ => 0

def maxOfAttempts (rs : List Retrier) : Nat := rs.foldr (fun r m => max r.maxAttempts m) 0

theorem scan_retry_bound (rs : List Retrier) (e : Str) (n : Nat) (d : Rat) (n' : Nat)
    (h : scanRetriers rs e n = .retry d n') : n' = n + 1 ∧ n < maxOfAttempts rs := by
  fun_induction scanRetriers rs e n with
  | case1 => cases h
  | case2 r rs e n _ hlt =>
    cases h
    exact ⟨rfl, Nat.lt_of_lt_of_le hlt (Nat.le_max_left ..)⟩
  | case3 => cases h
  | case4 r rs e n _ ih => exact ⟨(ih h).1, Nat.lt_of_lt_of_le (ih h).2 (Nat.le_max_right ..)⟩

/-- over **every** sequence of failures (any errors, any length) a state is re-run at most
`MaxAttempts` times (the largest MaxAttempts of its retriers bounds the shared retry counter) -/
theorem retries_le_maxAttempts (rs : List Retrier) (es : List Str) (n : Nat) :
    retriesGranted rs es n ≤ maxOfAttempts rs - n := by
  fun_induction retriesGranted rs es n with
  | case1 => exact Nat.zero_le _
  | case2 e es n d n' h ih =>
    have hb := scan_retry_bound rs e n d n' h
    omega
  | case3 => exact Nat.zero_le _

/-- in the interpreter: whenever `handle_error` decides to re-run a state, the retry count it passes
on is at most the largest MaxAttempts of the state's retriers — so no state visit is ever re-run
more often than that, whatever the task behaviour -/
theorem rerun_count_bounded (rs : List Retrier) (cs : List Catcher) (e : Str) (n : Nat) (d : Rat) (k : Nat)
    (h : decideError rs cs e n = .retry d k) : k = n + 1 ∧ k ≤ maxOfAttempts rs := by
  have := scan_retry_bound rs e n d k (decideError_retry h)
  exact ⟨this.1, by omega⟩

/-- with a single retrier: at most its MaxAttempts -/
theorem single_retrier_bound (r : Retrier) (es : List Str) : retriesGranted [r] es 0 ≤ r.maxAttempts := by
  have := retries_le_maxAttempts [r] es 0
  simpa [maxOfAttempts] using this

/-- catchers are consulted iff the error is recoverable and no retrier re-runs the state (none
matches, or the first matching one is exhausted); the first matching catcher wins -/
theorem catch_after_retries (rs : List Retrier) (cs : List Catcher) (e : Str) (n : Nat) (c : Catcher) :
    decideError rs cs e n = .caught c ↔
      unrecoverable e = false ∧ (∀ d k, scanRetriers rs e n ≠ .retry d k) ∧ scanCatchers cs e = some c :=
  decideError_caught_iff

theorem first_matching_catcher_wins (pre post : List Catcher) (c : Catcher) (e : Str)
    (hpre : ∀ p ∈ pre, errMatches p.errorEquals e = false) (hc : errMatches c.errorEquals e = true) :
    scanCatchers (pre ++ c :: post) e = some c := by
  rw [scanCatchers_append hpre, scanCatchers, if_pos hc]

theorem no_catcher_applies (cs : List Catcher) (e : Str)
    (h : ∀ p ∈ cs, errMatches p.errorEquals e = false) : scanCatchers cs e = none := by
  rw [← List.append_nil cs, scanCatchers_append h]
  rfl

/-- runtime errors, the execution timeout and termination are never retried or caught, whatever the
lists say — in particular `States.ALL` does not match them -/
theorem states_all_excludes_unrecoverable (rs : List Retrier) (cs : List Catcher) (e : Str) (n : Nat)
    (h : unrecoverable e = true) : decideError rs cs e n = .uncaught :=
  decideError_unrecoverable h

/-- `States.ALL` (alone) matches every error name -/
theorem states_all_matches (e : Str) : errMatches [S "States.ALL"] e = true := by
  simp [errMatches]

/-- otherwise the execution fails with E: nothing matched ⇒ uncaught -/
theorem unhandled_is_uncaught (rs : List Retrier) (cs : List Catcher) (e : Str) (n : Nat)
    (hr : ∀ p ∈ rs, errMatches p.errorEquals e = false) (hc : ∀ p ∈ cs, errMatches p.errorEquals e = false) :
    decideError rs cs e n = .uncaught := by
  unfold decideError
  split
  · rfl
  · simp [no_retrier_applies rs e n hr, no_catcher_applies cs e hc]

/-- in the interpreter: an uncaught error fails the scope with exactly that error name (a Parallel / Map state is
filed as failed — unless the error is the execution's time-out, for which the engine files nothing) -/
theorem unhandled_fails_with_E (env : Env) (fuel : Nat) (states : Json) (name : Str) (state data ctx : Json)
    (retries : Nat) (e msg : Str) (st : St)
    (h : decideError ((listOf (fld state "Retry")).map retrierOf) ((listOf (fld state "Catch")).map catcherOf) e retries = .uncaught) :
    handleErr env (fuel + 1) states name state data ctx retries e msg st =
      (.failed e (causeOf msg) false, (if e = execTimeoutName then st else st.fanFailedIf state).failTok) :=
  handleErr_uncaught_eq h

/-- a retried state is re-run on its *original raw input* with the incremented retry count (`hD`: the re-run starts
before the execution's time limit, if there is one — `Env.retryCut`; without a limit: `Env.retryCut_no_deadline`) -/
theorem retry_reruns_same_input (env : Env) (fuel : Nat) (states : Json) (name : Str) (state data ctx : Json)
    (retries : Nat) (e msg : Str) (st : St) (d : Rat) (k : Nat)
    (h : decideError ((listOf (fld state "Retry")).map retrierOf) ((listOf (fld state "Catch")).map catcherOf) e retries = .retry d k)
    (hD : env.retryCut (st.retryAfter name d).clock = none) :
    handleErr env (fuel + 1) states name state data ctx retries e msg st =
      runFrom env fuel states name data ctx k (st.retryAfter name d) := by
  rw [handleErr_retry_eq h, hD]

/-- a caught error transfers to the catcher's Next with the Error Output {Error, Cause} placed by the
catcher's ResultPath into the state's original raw input, and the successor starts with retry count 0 -/
theorem error_output_placed (env : Env) (fuel : Nat) (states : Json) (name next : Str) (state data data' ctx : Json)
    (retries : Nat) (e msg : Str) (st : St) (c : Catcher)
    (h : decideError ((listOf (fld state "Retry")).map retrierOf) ((listOf (fld state "Catch")).map catcherOf) e retries = .caught c)
    (hn : c.next = some next)
    (hp : applyResultPath data (errorOutput e (causeOf msg)) (match c.resultPath with | none => some ['$'] | some p => p) = .ok data')
    (hl : (render data').length ≤ env.maxData) :
    handleErr env (fuel + 1) states name state data ctx retries e msg st =
      runFrom env fuel states next data' ctx 0 (((st.fanFailedIf state).exit (stateType state) name data').handover next) :=
  handleErr_caught_eq h hn hp hl

/-- retry counters do not leak: the state entered after any transition starts with count 0
(see also C01.next_followed) -/
theorem retry_count_reset (env : Env) (fuel : Nat) (states : Json) (name next : Str) (state raw out ctx : Json)
    (retries : Nat) (st : St) (hE : isTrue (fld state "End") = false) (hN : fldStr state "Next" = some next)
    (hL : (render out).length ≤ env.maxData) :
    leave env (fuel + 1) states name state raw out ctx retries st =
      runFrom env fuel states next out ctx 0 ((st.exit (stateType state) name out).handover next) := by
  rw [leave_next_eq hE hN, if_neg (Nat.not_lt.mpr hL)]

/-! ### a refused transition is an error of the state, handled on its raw input

`change_state` refuses the transition out of a state whose result has already been placed when the
output text is longer than the size limit (`States.DataLimitExceeded`) or when there is no `Next`
(`States.Runtime`).  The state's Retry / Catch then work on the data the state was *entered* with
(`raw`), never on the output `out` that could not be handed on, and the retry count is the one the
state was entered with. -/

/-- oversize output: for every state, output and raw input, the error goes to the state's handler
with the raw input and the unchanged retry count -/
theorem refused_transition_handled_on_raw_input (env : Env) (fuel : Nat) (states : Json) (name next : Str)
    (state raw out ctx : Json) (retries : Nat) (st : St)
    (hE : isTrue (fld state "End") = false) (hN : fldStr state "Next" = some next)
    (hL : (render out).length > env.maxData) :
    leave env (fuel + 1) states name state raw out ctx retries st =
      handleErr env fuel states name state raw ctx retries (S "States.DataLimitExceeded") (S "m") st := by
  rw [leave_next_eq hE hN, if_pos hL]

/-- missing `Next`: the same with `States.Runtime` -/
theorem missing_next_handled_on_raw_input (env : Env) (fuel : Nat) (states : Json) (name : Str)
    (state raw out ctx : Json) (retries : Nat) (st : St)
    (hE : isTrue (fld state "End") = false) (hN : fldStr state "Next" = none) :
    leave env (fuel + 1) states name state raw out ctx retries st =
      handleErr env fuel states name state raw ctx retries (S "States.Runtime") (S "m") st :=
  leave_no_next_eq hE hN

/-- a terminal state (`End: true`) whose output is longer than the size limit: the same — the error
goes to the state's handler with its raw input and unchanged retry count (`handle_terminal_state`; the
join of a Parallel / Map that ends its scope) -/
theorem terminal_output_over_limit_handled_on_raw_input (env : Env) (fuel : Nat) (states : Json) (name : Str)
    (state raw out ctx : Json) (retries : Nat) (st : St)
    (hE : isTrue (fld state "End") = true) (hL : (render out).length > env.maxData) :
    leave env (fuel + 1) states name state raw out ctx retries st =
      handleErr env fuel states name state raw ctx retries (S "States.DataLimitExceeded") (S "m") st := by
  rw [leave_end_eq hE, if_pos hL]

/-- … so a terminal state with a matching retrier is re-run on its raw input -/
theorem terminal_output_over_limit_retried_on_raw_input (env : Env) (fuel : Nat) (states : Json) (name : Str)
    (state raw out ctx : Json) (retries : Nat) (st : St) (d : Rat) (k : Nat)
    (hE : isTrue (fld state "End") = true) (hL : (render out).length > env.maxData)
    (h : decideError ((listOf (fld state "Retry")).map retrierOf) ((listOf (fld state "Catch")).map catcherOf)
      (S "States.DataLimitExceeded") retries = .retry d k)
    (hD : env.retryCut (st.retryAfter name d).clock = none) :
    leave env (fuel + 2) states name state raw out ctx retries st =
      runFrom env fuel states name raw ctx k (st.retryAfter name d) ∧
      k = retries + 1 := by
  rw [leave_end_eq hE, if_pos hL, handleErr_retry_eq h, hD]
  exact ⟨rfl, (rerun_count_bounded _ _ _ _ _ _ h).1⟩

/-- … and since `States.Runtime` is unrecoverable, a missing `Next` fails the scope whatever the
state's Retry / Catch say -/
theorem missing_next_fails (env : Env) (fuel : Nat) (states : Json) (name : Str)
    (state raw out ctx : Json) (retries : Nat) (st : St)
    (hE : isTrue (fld state "End") = false) (hN : fldStr state "Next" = none) :
    leave env (fuel + 2) states name state raw out ctx retries st =
      (.failed (S "States.Runtime") (some (.str (S "<cause>"))) false, (st.fanFailedIf state).failTok) := by
  rw [leave_no_next_eq hE hN,
    handleErr_uncaught_eq (states_all_excludes_unrecoverable _ _ (S "States.Runtime") _ (by simp [unrecoverable])),
    if_neg (by simp [execTimeoutName, S_inj])]
  rfl

/-- a state whose oversize output is refused and whose Retry grants a re-run is re-run on its **raw
input** with the retry count incremented from the count it was entered with -/
theorem refused_transition_retried_on_raw_input (env : Env) (fuel : Nat) (states : Json) (name next : Str)
    (state raw out ctx : Json) (retries : Nat) (st : St) (d : Rat) (k : Nat)
    (hE : isTrue (fld state "End") = false) (hN : fldStr state "Next" = some next)
    (hL : (render out).length > env.maxData)
    (h : decideError ((listOf (fld state "Retry")).map retrierOf) ((listOf (fld state "Catch")).map catcherOf)
      (S "States.DataLimitExceeded") retries = .retry d k)
    (hD : env.retryCut (st.retryAfter name d).clock = none) :
    leave env (fuel + 2) states name state raw out ctx retries st =
      runFrom env fuel states name raw ctx k (st.retryAfter name d) ∧
      k = retries + 1 := by
  rw [leave_next_eq hE hN, if_pos hL, handleErr_retry_eq h, hD]
  exact ⟨rfl, (rerun_count_bounded _ _ _ _ _ _ h).1⟩

/-- a state whose oversize output is refused and is caught: the successor is the catcher's `Next`,
entered with the Error Output placed by the catcher's ResultPath into the state's **raw input** -/
theorem refused_transition_caught_on_raw_input (env : Env) (fuel : Nat) (states : Json) (name next cnext : Str)
    (state raw out raw' ctx : Json) (retries : Nat) (st : St) (c : Catcher)
    (hE : isTrue (fld state "End") = false) (hN : fldStr state "Next" = some next)
    (hL : (render out).length > env.maxData)
    (h : decideError ((listOf (fld state "Retry")).map retrierOf) ((listOf (fld state "Catch")).map catcherOf)
      (S "States.DataLimitExceeded") retries = .caught c)
    (hn : c.next = some cnext)
    (hp : applyResultPath raw (errorOutput (S "States.DataLimitExceeded") (causeOf (S "m")))
      (match c.resultPath with | none => some ['$'] | some p => p) = .ok raw')
    (hl : (render raw').length ≤ env.maxData) :
    leave env (fuel + 2) states name state raw out ctx retries st =
      runFrom env fuel states cnext raw' ctx 0 (((st.fanFailedIf state).exit (stateType state) name raw').handover cnext) := by
  rw [leave_next_eq hE hN, if_pos hL]
  exact handleErr_caught_eq h hn hp hl

/-- the catch case with `ResultPath: null`: the Error Output is discarded and the successor is entered
with **exactly the raw input** (not the oversize output, nor anything derived from it) -/
theorem refused_transition_caught_null_resultpath (env : Env) (fuel : Nat) (states : Json) (name next cnext : Str)
    (state raw out ctx : Json) (retries : Nat) (st : St) (c : Catcher)
    (hE : isTrue (fld state "End") = false) (hN : fldStr state "Next" = some next)
    (hL : (render out).length > env.maxData)
    (h : decideError ((listOf (fld state "Retry")).map retrierOf) ((listOf (fld state "Catch")).map catcherOf)
      (S "States.DataLimitExceeded") retries = .caught c)
    (hn : c.next = some cnext) (hrp : c.resultPath = some none)
    (hraw : raw ≠ .null) (hl : (render raw).length ≤ env.maxData) :
    leave env (fuel + 2) states name state raw out ctx retries st =
      runFrom env fuel states cnext raw ctx 0 (((st.fanFailedIf state).exit (stateType state) name raw).handover cnext) := by
  refine refused_transition_caught_on_raw_input env fuel states name next cnext state raw out raw ctx retries st c
    hE hN hL h hn ?_ hl
  simp [hrp, applyResultPath, hraw]

/-- Parallel / Map: the join whose output is refused hands the error to the fan-out state's handler
with the fan-out state's raw input and the retry count it was entered with (it is *kept*, so
`MaxAttempts` still bounds the re-runs of a fan-out state whose output is too large) -/
theorem fanout_refused_transition_keeps_retry_count (env : Env) (fuel : Nat) (states : Json) (name next : Str)
    (state data ctx result out : Json) (results : List Json) (retries : Nat) (st : St) (d : Rat) (k : Nat)
    (hs : tmplOpt env (.arr results) ctx (fld state "ResultSelector") = .ok result)
    (hm : mergeResult data ctx result state = .ok out)
    (hE : isTrue (fld state "End") = false) (hN : fldStr state "Next" = some next)
    (hL : (render out).length > env.maxData)
    (h : decideError ((listOf (fld state "Retry")).map retrierOf) ((listOf (fld state "Catch")).map catcherOf)
      (S "States.DataLimitExceeded") retries = .retry d k)
    (hD : env.retryCut (st.retryAfter name d).clock = none) :
    joinAndLeave env (fuel + 3) states name state data ctx retries (.ok results) st =
      runFrom env fuel states name data ctx (retries + 1) (st.retryAfter name d) := by
  rw [joinAndLeave_ok_eq hs hm, leave_next_eq hE hN, if_pos hL, handleErr_retry_eq h, hD,
    (rerun_count_bounded _ _ _ _ _ _ h).1]

/-- Task: a successful reply whose placed result is too large is retried on the Task's raw input -/
theorem task_refused_transition_retried_on_raw_input (env : Env) (fuel : Nat) (states : Json) (name fn next : Str)
    (state data ctx input params v result out : Json) (retries : Nat) (st : St) (d : Rat) (k : Nat) (tEnd : Rat)
    (h : stateType state = S "Task")
    (hr : rpcFunction ((fldStr state "Resource").getD []) = some fn)
    (hi : applyPath data ctx (pathArg state "InputPath") = .ok input)
    (hp : tmplOpt env input ctx (fld state "Parameters") = .ok params)
    (own : Option Rat) (hown : taskOwnDeadline state data ctx st.clock = .ok own)
    (ha : taskArrival (env.delay fn params (bump st.counts (fn, params)).1)
        ((taskLimit own env.deadline st.clock).map (·.t)) st.clock
      = some (tEnd, false))
    (hv : taskReply env.maxData (env.task fn params (bump st.counts (fn, params)).1) = .ok v)
    (hs : tmplOpt env v ctx (fld state "ResultSelector") = .ok result)
    (hm : mergeResult data ctx result state = .ok out)
    (hE : isTrue (fld state "End") = false) (hN : fldStr state "Next" = some next)
    (hL : (render out).length > env.maxData)
    (hd : decideError ((listOf (fld state "Retry")).map retrierOf) ((listOf (fld state "Catch")).map catcherOf)
      (S "States.DataLimitExceeded") retries = .retry d k)
    (hD : env.retryCut (((st.closeKeep.request false).taskCall (bump st.counts (fn, params)).2 ((fldStr state "Resource").getD []) params
          (replyEv env.maxData (env.task fn params (bump st.counts (fn, params)).1)) tEnd).retryAfter name d).clock = none) :
    runState env (fuel + 3) states name state data ctx retries st =
      runFrom env fuel states name data ctx (retries + 1)
        (((st.closeKeep.request false).taskCall (bump st.counts (fn, params)).2 ((fldStr state "Resource").getD []) params
          (replyEv env.maxData (env.task fn params (bump st.counts (fn, params)).1)) tEnd).retryAfter name d) := by
  rw [runState_task_answered_eq h hr hi hp hown ha]
  simp only [hv, hs, hm]
  rw [leave_next_eq hE hN, if_pos hL, handleErr_retry_eq hd, hD, (rerun_count_bounded _ _ _ _ _ _ hd).1]

/-! non-vacuity -/
-- for `decide` below, declared here for the reason given in `C01.lean`
deriving instance DecidableEq for Catcher, Decision, RetryScan, TaskOut, Except
private def r1 : Retrier := { errorEquals := [S "A"], interval := 2, maxAttempts := 2, backoff := 3/2 }
private def r2 : Retrier := { errorEquals := [S "States.ALL"], maxAttempts := 0 }
example : scanRetriers [r1, r2] (S "A") 1 = .retry (2 * (3/2) ^ 1) 2 := by decide +kernel
example : scanRetriers [r1, r2] (S "B") 0 = .exhausted := by decide +kernel
example : retriesGranted [r1] [S "A", S "A", S "A", S "A"] 0 = 2 := by decide +kernel
example : decideError [r2] [{ errorEquals := [S "States.ALL"], next := some (S "N"), resultPath := none }] (S "States.Runtime") 0
    = .uncaught := by decide +kernel
example : ∃ c, decideError [r2] [{ errorEquals := [S "States.ALL"], next := some (S "N"), resultPath := none }] (S "X") 0
    = .caught c := ⟨{ errorEquals := [S "States.ALL"], next := some (S "N"), resultPath := none }, by decide +kernel⟩

/-! refused transitions, on a concrete Task state: limit 50 characters, a worker whose reply is 42
characters long (accepted) and makes the output 57 characters long (refused), Retry once on `States.DataLimitExceeded`, then Catch with `ResultPath: null` -/
private def reply : Json := .str (S "0123456789012345678901234567890123456789")
private def envS : Env :=
  { tmpl := Lite.tmpl, choose := Lite.choose, maxData := 50, task := fun _ _ _ => reply }
private def tState : Json := .obj [
  (S "Type", .str (S "Task")), (S "Resource", .str (S "arn:aws:rpcmessage:local::function:f")),
  (S "ResultPath", .str (S "$.r")), (S "Next", .str (S "N")),
  (S "Retry", .arr [.obj [(S "ErrorEquals", .arr [.str (S "States.DataLimitExceeded")]), (S "MaxAttempts", .num 1)]]),
  (S "Catch", .arr [.obj [(S "ErrorEquals", .arr [.str (S "States.ALL")]), (S "ResultPath", .null),
    (S "Next", .str (S "C"))]])]
private def succeedSt : Json := .obj [(S "Type", .str (S "Succeed"))]
private def aslT : Json := .obj [(S "StartAt", .str (S "T")), (S "States", .obj [
  (S "T", tState), (S "N", succeedSt), (S "C", succeedSt)])]
private def rawIn : Json := .obj [(S "a", .num 1)]
private def bigOut : Json := .obj [(S "a", .num 1), (S "r", reply)]
private def theCatcher : Catcher :=
  { errorEquals := [S "States.ALL"], next := some (S "C"), resultPath := some none }

-- the hypotheses of `refused_transition_handled_on_raw_input` and its corollaries, on `tState`
private theorem hEnd : isTrue (fld tState "End") = false := by decide +kernel
private theorem hNext : fldStr tState "Next" = some (S "N") := by decide +kernel
private theorem hBig : (render bigOut).length > envS.maxData := by decide +kernel
private theorem hRetry0 : ∃ d, decideError ((listOf (fld tState "Retry")).map retrierOf)
    ((listOf (fld tState "Catch")).map catcherOf) (S "States.DataLimitExceeded") 0 = .retry d 1 := ⟨1, by decide +kernel⟩
private theorem hCaught1 : decideError ((listOf (fld tState "Retry")).map retrierOf)
    ((listOf (fld tState "Catch")).map catcherOf) (S "States.DataLimitExceeded") 1 = .caught theCatcher := by decide +kernel

/-- the output `bigOut` is what the Task's ResultPath makes of the reply and the raw input `rawIn` -/
example : mergeResult rawIn (.obj []) reply tState = .ok bigOut := by rfl
/-- refused at retry count 0: handled on `rawIn` … -/
example (fuel : Nat) (states ctx : Json) (st : St) :
    leave envS (fuel + 1) states (S "T") tState rawIn bigOut ctx 0 st =
      handleErr envS fuel states (S "T") tState rawIn ctx 0 (S "States.DataLimitExceeded") (S "m") st :=
  refused_transition_handled_on_raw_input envS fuel states (S "T") (S "N") tState rawIn bigOut ctx 0 st hEnd hNext hBig
/-- … which re-runs `T` on `rawIn` with retry count 1 … -/
example (fuel : Nat) (states ctx : Json) (st : St) :
    ∃ d, leave envS (fuel + 2) states (S "T") tState rawIn bigOut ctx 0 st =
      runFrom envS fuel states (S "T") rawIn ctx 1 (st.retryAfter (S "T") d) := by
  obtain ⟨d, hd⟩ := hRetry0
  exact ⟨d, (refused_transition_retried_on_raw_input envS fuel states (S "T") (S "N") tState rawIn bigOut ctx 0 st d 1
    hEnd hNext hBig hd (Env.retryCut_no_deadline _ _ rfl)).1⟩
/-- … and refused again at retry count 1: caught, `C` is entered with exactly `rawIn` -/
example (fuel : Nat) (states ctx : Json) (st : St) :
    leave envS (fuel + 2) states (S "T") tState rawIn bigOut ctx 1 st =
      runFrom envS fuel states (S "C") rawIn ctx 0 ((st.exit (S "Task") (S "T") rawIn).handover (S "C")) :=
  refused_transition_caught_null_resultpath envS fuel states (S "T") (S "N") (S "C") tState rawIn bigOut ctx 1 st
    theCatcher hEnd hNext hBig hCaught1 rfl rfl (by decide) (by decide +kernel)
/-- the whole state, from `runState` (hypotheses of `task_refused_transition_retried_on_raw_input`): the reply
arrives after the worker's 10 ms, the re-run starts the Retrier's interval later -/
example (fuel : Nat) (states : Json) :
    ∃ d, runState envS (fuel + 3) states (S "T") tState rawIn (.obj []) 0 {} =
      runFrom envS fuel states (S "T") rawIn (.obj []) 1
        (((({ } : St).closeKeep.request false).taskCall [((S "f", rawIn), 1)] (S "arn:aws:rpcmessage:local::function:f") rawIn
          (.lambdaSucceeded reply) 10).retryAfter (S "T") d) := by
  obtain ⟨d, hd⟩ := hRetry0
  -- (the nine hypotheses in one evaluation: one by one is slow to check)
  suffices h : _ ∧ _ ∧ _ ∧ _ ∧ _ ∧ _ ∧ _ ∧ _ ∧ _ from
    have ⟨h, hr, hi, hp, hown, ha, hv, hs, hm⟩ := h
    ⟨d, task_refused_transition_retried_on_raw_input envS fuel states (S "T") (S "f") (S "N") tState rawIn (.obj [])
      rawIn rawIn reply reply bigOut 0 {} d 1 10 h hr hi hp none hown ha hv hs hm
      hEnd hNext hBig hd (Env.retryCut_no_deadline _ _ rfl)⟩
  decide +kernel
/-- a fan-out state with the same Retry, entered with retry count 0 (hypotheses of
`fanout_refused_transition_keeps_retry_count`; `tState`'s Type plays no part in the join) -/
example (fuel : Nat) (states : Json) (st : St) :
    ∃ d, joinAndLeave envS (fuel + 3) states (S "T") tState rawIn (.obj []) 0 (.ok [reply]) st =
      runFrom envS fuel states (S "T") rawIn (.obj []) 1 (st.retryAfter (S "T") d) := by
  obtain ⟨d, hd⟩ := hRetry0
  suffices h : _ ∧ _ ∧ (render (.obj [(S "a", .num 1), (S "r", .arr [reply])])).length > envS.maxData from
    ⟨d, fanout_refused_transition_keeps_retry_count envS fuel states (S "T") (S "N") tState rawIn (.obj [])
      (.arr [reply]) _ [reply] 0 st d 1 h.1 h.2.1 hEnd hNext h.2.2 hd (Env.retryCut_no_deadline _ _ rfl)⟩
  decide +kernel
/-- the whole run: T is entered on `rawIn`, its output is refused, it is re-run once on `rawIn`, refused
again, caught, and `C` is entered with exactly `rawIn` — which is the execution's output -/
example : (run envS 20 aslT rawIn (.obj [])).status = S "SUCCEEDED" ∧
    (run envS 20 aslT rawIn (.obj [])).output = some rawIn ∧
    (run envS 20 aslT rawIn (.obj [])).trace = [S "T", S "C"] := by decide +kernel
/-- a terminal Task state with the same Retry -/
private def tEnd : Json := .obj [
  (S "Type", .str (S "Task")), (S "Resource", .str (S "arn:aws:rpcmessage:local::function:f")),
  (S "ResultPath", .str (S "$.r")), (S "End", .bool true),
  (S "Retry", .arr [.obj [(S "ErrorEquals", .arr [.str (S "States.DataLimitExceeded")]), (S "MaxAttempts", .num 1)]])]
/-- hypotheses of `terminal_output_over_limit_…`: refused at retry count 0, re-run on `rawIn` with count 1 -/
example (fuel : Nat) (states ctx : Json) (st : St) :
    ∃ d, leave envS (fuel + 2) states (S "T") tEnd rawIn bigOut ctx 0 st =
      runFrom envS fuel states (S "T") rawIn ctx 1 (st.retryAfter (S "T") d) :=
  ⟨1, (terminal_output_over_limit_retried_on_raw_input envS fuel states (S "T") tEnd rawIn bigOut ctx 0 st 1 1
    (by decide +kernel) hBig (by decide +kernel) (Env.retryCut_no_deadline _ _ rfl)).1⟩
/-- the whole run of the one-state machine: two attempts, then FAILED with States.DataLimitExceeded -/
example : (run envS 20 (.obj [(S "StartAt", .str (S "T")), (S "States", .obj [(S "T", tEnd)])]) rawIn (.obj [])).status
      = S "FAILED" ∧
    (run envS 20 (.obj [(S "StartAt", .str (S "T")), (S "States", .obj [(S "T", tEnd)])]) rawIn (.obj [])).error
      = some (S "States.DataLimitExceeded") := by decide +kernel
/-- a missing `Next` (hypotheses of `missing_next_handled_on_raw_input` / `missing_next_fails`) -/
example : isTrue (fld succeedSt "End") = false ∧ fldStr succeedSt "Next" = none := by decide +kernel

end Asl.C07
