/-
C14 — Choice rules compare by type and combine like Boolean logic.
The RFC 3339 theorems `parse_print_rfc3339` / `instant_offset` are in Proofs/Lemmas/Timestamp.lean.
-/
import AslModel.Choice
import Proofs.Lemmas.Timestamp
import Proofs.Lemmas.Choice
namespace Asl.C14
open Asl.ChoiceLemmas

/-- For each of the 16 value comparisons and StringMatches (`c` ranges over all of them):
the rule matches **exactly when** the Variable exists, both operands have the operator's
type and the relation holds (`Matches` is the declarative relation: numbers numerically,
strings by code point, booleans by identity, timestamps by instant, `GlobMatch`). -/
theorem cmp_sound_complete (e : CEnv) (c : Cmp) (var : Str) (k : Json) :
    evalRule e (.cmp c var k) = true ↔
      ∃ x, e.lookup var = some x ∧ HasType c x ∧ HasType c k ∧ Matches c x k := by
  cases hx : e.lookup var with
  | none => simp [evalRule, hx]
  | some x =>
    simp only [evalRule, hx, evalCmp_iff, Option.some.injEq, exists_eq_left']
    exact ⟨fun hm => ⟨(matches_hasType c x k hm).1, (matches_hasType c x k hm).2, hm⟩, fun h => h.2.2⟩

/-- a missing Variable never matches a value comparison -/
theorem cmp_missing_never_matches (e : CEnv) (c : Cmp) (var : Str) (k : Json)
    (h : e.lookup var = none) : evalRule e (.cmp c var k) = false := by
  simp [evalRule, h]

/-- a value of the wrong type never matches a value comparison -/
theorem cmp_wrong_type_never_matches (e : CEnv) (c : Cmp) (var : Str) (k x : Json)
    (hx : e.lookup var = some x) (h : ¬ HasType c x) : evalRule e (.cmp c var k) = false := by
  rw [← Bool.not_eq_true, cmp_sound_complete]
  rintro ⟨x', hx', ht, _⟩
  rw [hx] at hx'; cases hx'; exact h ht

/-- a constant of the wrong type never matches either -/
theorem cmp_wrong_constant_never_matches (e : CEnv) (c : Cmp) (var : Str) (k : Json)
    (h : ¬ HasType c k) : evalRule e (.cmp c var k) = false := by
  rw [← Bool.not_eq_true, cmp_sound_complete]
  rintro ⟨_, _, _, hk, _⟩
  exact h hk

/-- the `…Path` variants compare against the value the path references (and do not match
when it references nothing) -/
theorem path_variant (e : CEnv) (c : Cmp) (var p : Str) :
    evalRule e (.cmpPath c var p) = true ↔
      ∃ k, e.lookup p = some k ∧ evalRule e (.cmp c var k) = true := by
  cases hx : e.lookup var <;> cases hk : e.lookup p <;> simp [evalRule, hx, hk]

/-- IsPresent reports whether the Variable selects anything; the other five type tests
report the type fact of the selected value, and say nothing (match neither `true` nor
`false`) when there is no value. -/
theorem is_tests (e : CEnv) (t : IsOp) (var : Str) (b : Bool) :
    evalRule e (.is t var b) = true ↔
      (t = .present ∧ ((∃ x, e.lookup var = some x) ↔ b = true)) ∨
      (t ≠ .present ∧ ∃ x, e.lookup var = some x ∧ (TypeFact t x ↔ b = true)) := by
  by_cases ht : t = .present
  · subst ht
    simp only [evalRule, ne_eq, not_true_eq_false, false_and, or_false, true_and]
    cases hl : e.lookup var <;> cases b <;> simp
  · simp only [evalRule, ht, false_and, false_or, ne_eq, not_false_eq_true, true_and]
    cases hl : e.lookup var with
    | none => simp
    | some x =>
      simp only [Option.some.injEq, exists_eq_left', ← isType_iff]
      cases isType _ x <;> cases b <;> simp

theorem and_all (e : CEnv) (rs : List Rule) :
    evalRule e (.and rs) = true ↔ ∀ r ∈ rs, evalRule e r = true := by
  simp [evalRule, evalAll_eq]

theorem or_any (e : CEnv) (rs : List Rule) :
    evalRule e (.or rs) = true ↔ ∃ r ∈ rs, evalRule e r = true := by
  simp [evalRule, evalAny_eq]

theorem not_neg (e : CEnv) (r : Rule) : evalRule e (.not r) = !evalRule e r := by
  simp [evalRule]

theorem double_negation (e : CEnv) (r : Rule) : evalRule e (.not (.not r)) = evalRule e r := by
  simp [evalRule]

theorem de_morgan_and (e : CEnv) (rs : List Rule) :
    evalRule e (.not (.and rs)) = evalRule e (.or (rs.map .not)) := by
  simp [evalRule, evalAll_eq, evalAny_eq, Function.comp_def, List.all_eq_not_any_not]

theorem de_morgan_or (e : CEnv) (rs : List Rule) :
    evalRule e (.not (.or rs)) = evalRule e (.and (rs.map .not)) := by
  simp [evalRule, evalAll_eq, evalAny_eq, Function.comp_def, List.any_eq_not_all_not]

/-- the matcher decides exactly the `*`-wildcard-with-backslash-escape relation -/
theorem glob_iff (p s : Str) : glob p s = true ↔ GlobMatch p s :=
  ⟨glob_sound p s, glob_complete p s⟩

/-- no other metacharacters: a pattern without `*` and `\` matches only itself -/
theorem glob_no_other_meta (p s : Str) (h1 : '*' ∉ p) (h2 : '\\' ∉ p) :
    glob p s = true ↔ s = p := by
  induction p generalizing s with
  | nil => simp [glob_nil]
  | cons c p ih =>
    simp only [List.mem_cons, not_or] at h1 h2
    have hc1 : c ≠ '*' := fun h => h1.1 h.symm
    have hesc : ¬ IsEsc c p := fun h => h2.1 h.1.symm
    simp [glob_lit c p s hc1 hesc, ih _ h1.2 h2.2]

/-- String comparisons are by code point: StringLessThan matches exactly when the value
precedes the constant in the lexicographic order of code points. -/
theorem strings_by_codepoint (e : CEnv) (r : Rel) (var : Str) (b : Str) :
    evalRule e (.cmp (.str r) var (.str b)) = true ↔
      ∃ a, e.lookup var = some (.str a) ∧ r.Holds CodeLt a b := by
  rw [cmp_sound_complete]
  constructor
  · rintro ⟨x, hx, _, _, hm⟩
    cases hm with
    | str _ a _ hr => exact ⟨a, hx, hr⟩
  · rintro ⟨a, hx, hr⟩
    exact ⟨.str a, hx, ⟨a, rfl⟩, ⟨b, rfl⟩, Matches.str r a b hr⟩

/-- Timestamp comparisons are by the instant denoted, whatever the offset notation. -/
theorem timestamps_by_instant (e : CEnv) (r : Rel) (var : Str) (b : Str) :
    evalRule e (.cmp (.ts r) var (.str b)) = true ↔
      ∃ a ta tb, e.lookup var = some (.str a) ∧ parseTs a = some ta ∧ parseTs b = some tb ∧
        r.Holds (· < ·) ta.instant tb.instant := by
  rw [cmp_sound_complete]
  constructor
  · rintro ⟨x, hx, _, _, hm⟩
    cases hm with
    | ts _ a _ ta tb ha hb hr => exact ⟨a, ta, tb, hx, ha, hb, hr⟩
  · rintro ⟨a, ta, tb, hx, ha, hb, hr⟩
    exact ⟨.str a, hx, ⟨a, ta, rfl, ha⟩, ⟨b, tb, rfl, hb⟩, Matches.ts r a b ta tb ha hb hr⟩

/-- rules are tried in array order and the first match wins -/
theorem first_match_wins (e : CEnv) (pre post : List (Rule × Str)) (r : Rule) (n : Str)
    (d : Option Str) (hpre : ∀ c ∈ pre, evalRule e c.1 = false) (hr : evalRule e r = true) :
    choose e (pre ++ (r, n) :: post) d = .ok n := by
  have : firstMatch e (pre ++ (r, n) :: post) = some n :=
    (firstMatch_some_iff e _ n).mpr ⟨pre, r, post, rfl, hpre, hr⟩
  simp [choose, this]

/-- with no match the Default is taken -/
theorem default_taken (e : CEnv) (cs : List (Rule × Str)) (d : Str)
    (h : ∀ c ∈ cs, evalRule e c.1 = false) : choose e cs (some d) = .ok d := by
  simp [choose, (firstMatch_none_iff e cs).mpr h]

/-- with no match and no Default the state fails with States.NoChoiceMatched -/
theorem no_choice_matched (e : CEnv) (cs : List (Rule × Str))
    (h : ∀ c ∈ cs, evalRule e c.1 = false) :
    choose e cs none = .error .noChoiceMatched ∧
      ChoiceErr.noChoiceMatched.name = "States.NoChoiceMatched" := by
  simp [choose, (firstMatch_none_iff e cs).mpr h, ChoiceErr.name]

/-- and nothing else can happen: every transition a Choice state takes is the first
matching rule's `Next`, or the Default when no rule matches. -/
theorem choose_ok_only_if (e : CEnv) (cs : List (Rule × Str)) (d : Option Str) (n : Str)
    (h : choose e cs d = .ok n) :
    (∃ pre r post, cs = pre ++ (r, n) :: post ∧ (∀ c ∈ pre, evalRule e c.1 = false) ∧
        evalRule e r = true) ∨
    ((∀ c ∈ cs, evalRule e c.1 = false) ∧ d = some n) := by
  revert h
  fun_cases choose e cs d <;> rintro ⟨⟩
  · exact .inl ((firstMatch_some_iff e cs n).mp ‹_›)
  · exact .inr ⟨(firstMatch_none_iff e cs).mp ‹_›, rfl⟩

/-! ### non-vacuity -/

def exInput : Json := .obj [("v".toList, .num 5), ("s".toList, .str "abc".toList),
  ("t".toList, .str "2020-01-01T05:30:00+05:30".toList)]
def exEnv : CEnv := { input := exInput, ctx := .obj [] }

/-- cmp_sound_complete is not vacuous: a numeric comparison that matches … -/
example : evalRule exEnv (.cmp (.num .lt) "$.v".toList (.num 7)) = true := by decide +kernel
/-- … and the declarative side holds of the same instance -/
example : Matches (.num .lt) (.num 5) (.num 7) := Matches.num .lt 5 7 (by simp [Rel.Holds])
/-- cmp_missing_never_matches: a Variable that selects nothing -/
example : exEnv.lookup "$.q".toList = none := by decide +kernel
/-- cmp_wrong_type_never_matches: a string where a number is required -/
example : exEnv.lookup "$.s".toList = some (.str "abc".toList) ∧
    ¬ HasType (.num .eq) (.str "abc".toList) := by
  refine ⟨by decide +kernel, ?_⟩
  rintro ⟨n, hn⟩; cases hn
/-- cmp_wrong_constant_never_matches -/
example : ¬ HasType .boolEq (.num 0) := by rintro ⟨b, hb⟩; cases hb
/-- glob_no_other_meta: `?`, `[` and `]` are ordinary characters -/
example : '*' ∉ "a?[c]".toList ∧ '\\' ∉ "a?[c]".toList := by
  -- `String.toList` of a literal is slow to evaluate
  rw [String.toList_ofList]
  decide +kernel
example : glob "a?[c]".toList "ab[c]".toList = false ∧ glob "a?[c]".toList "a?[c]".toList = true := by
  rw [String.toList_ofList, String.toList_ofList]
  decide +kernel
/-- glob: the escapes and the wildcard on a concrete subject -/
example : glob "foo\\*[x]*.l\\\\g".toList "foo*[x]bar.l\\g".toList = true := by
  rw [String.toList_ofList, String.toList_ofList]
  decide +kernel
/-- timestamps_by_instant: two notations of one instant are equal, and the value parses -/
example : evalRule exEnv (.cmp (.ts .eq) "$.t".toList (.str "2020-01-01T00:00:00Z".toList)) = true := by
  rw [String.toList_ofList, String.toList_ofList]
  decide +kernel
/-- parse_print_rfc3339: a record with a fraction and a non-zero minute offset is `ok` -/
example : (⟨2024, 2, 29, 23, 59, 59, [0, 0, 1], -1439, false⟩ : Ts).ok = true := by decide +kernel
/-- days_next_month: February of a leap year to March -/
example : 1 ≤ 2 ∧ 2 < 12 ∧ daysFromCivil 2024 3 1 = daysFromCivil 2024 2 29 + 1 := by decide +kernel
/-- first_match_wins: a failing rule before a matching one -/
example : (∀ c ∈ [((Rule.is .null "$.v".toList true), "A".toList)], evalRule exEnv c.1 = false) ∧
    evalRule exEnv (.cmp (.str .ge) "$.s".toList (.str "abc".toList)) = true := by decide +kernel
/-- default_taken / no_choice_matched: a non-empty rule list none of whose rules matches -/
example : ∀ c ∈ [((Rule.cmp .boolEq "$.q".toList (.bool false)), "A".toList),
    ((Rule.not (.and [])), "B".toList)], evalRule exEnv c.1 = false := by decide +kernel
/-- choose_ok_only_if -/
example : choose exEnv [((Rule.or []), "A".toList)] (some "D".toList) = .ok "D".toList := rfl

end Asl.C14
