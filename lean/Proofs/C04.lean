/-
C04 — in-progress executions survive an engine crash and restart.
The protocol-level reasons: (1) the broker loses nothing on a connection loss; (2) because a
handler acknowledges its event only after it has handed over every consequence (C03's ordering
rule), cutting a handler short after *any* prefix of its broker operations either leaves the event
unacknowledged (it is redelivered) or has already issued all of its consequences.
-/
import AslModel.BrokerQ
import Proofs.C03
import Proofs.Lemmas.CrashSeq
import Proofs.Lemmas.CrashSeqF1
import Proofs.Lemmas.CrashFlatMain
import Proofs.Lemmas.CrashSent
import Proofs.Lemmas.CrashBatchInv
namespace Asl.C04
open Asl

/-- a message that was delivered and not acknowledged is back in the queue after a crash, marked
redelivered, ahead of everything that was still waiting -/
theorem crash_requeues_unacked (q : BQ) (m : QMsg) (h : m ∈ q.unacked) :
    { m with redelivered := true } ∈ (q.step .crash).ready ∧ (q.step .crash).unacked = [] := by
  simp only [BQ.step]
  refine ⟨List.mem_append_left _ (List.mem_map.mpr ⟨m, h, rfl⟩), ?_⟩
  trivial

/-- nothing that was waiting is lost or reordered by a crash -/
theorem crash_keeps_ready (q : BQ) : ∃ pre, (q.step .crash).ready = pre ++ q.ready := ⟨_, rfl⟩

/-- conservation: crash and deliver neither lose nor invent a message -/
theorem crash_conserves_ids (q : BQ) : (q.step .crash).ids.Perm q.ids := by
  simp only [BQ.step, BQ.ids, List.map_append, List.map_map, Function.comp_def, List.map_nil, List.append_nil]
  exact (List.perm_append_comm).append_right _

theorem deliver_conserves_ids (q : BQ) : (q.step .deliver).ids.Perm q.ids := by
  simp only [BQ.step, BQ.ids]
  cases hr : q.ready with
  | nil => simp [hr]
  | cons m rest =>
    simp only [List.map_cons, List.map_append, List.map_nil, List.append_assoc, List.cons_append, List.nil_append]
    exact (List.Perm.append_left _ List.perm_middle).trans List.perm_middle

/-- no loss inside a handler: if the handler step is ordered (C03) and the crash comes after any
prefix of its broker operations, then either the event's acknowledgement is not in the prefix (the
broker will redeliver the event) or every publish / record write of the step is already in it -/
theorem no_loss_mid_handler (fs : List Fr) (h : stepOrdered fs = true) (k : Nat) :
    (∀ f ∈ cutStep fs k, isAck f = false) ∨ (∀ f ∈ fs.drop k, isOut f = false) := by
  by_cases hk : ∃ a ∈ fs.take k, isAck a = true
  · right
    obtain ⟨a, hmem, ha⟩ := hk
    obtain ⟨pre, post, hsplit⟩ := List.append_of_mem hmem
    intro g hg
    have hfs : fs = pre ++ a :: (post ++ fs.drop k) := by
      rw [← List.cons_append, ← List.append_assoc, ← hsplit, List.take_append_drop]
    exact C03.stepOrdered_spec fs h pre a (post ++ fs.drop k) hfs ha g (List.mem_append_right _ hg)
  · left
    intro f hf
    cases ha : isAck f with
    | false => rfl
    | true => exact absurd ⟨f, hf, ha⟩ hk

/-- …and a crash strictly between two handler steps cuts nothing: the prefix is the whole step -/
theorem between_handlers_nothing_cut (fs : List Fr) : cutStep fs fs.length = fs := by
  simp [cutStep]

/-! ### the crash / redelivery protocol of one execution (`AslModel/Crash.lean`)

With all quirks off, and the engine dying between two handler invocations (any number of times, anywhere), an
execution completes as the crash-free run does; on sequences it is not lost either when the engine dies inside a handler. -/

open Asl.Crash in
theorem count_le_one_of_nodup (xs : List Nat) (x : Nat) (h : xs.Nodup) : count xs x ≤ 1 :=
  sent_count_le_one xs x h

open Asl.Crash in
/-- what the harness would see of an execution that has ended (`Ended`): terminal, one notification, no request sent
twice, nothing pending, nothing left to do -/
theorem observe_ended (N : Nat) (c : Cfg) (h : Ended N c) :
    observe c = { terminal := true, notes := 1, resent := [], pendingUnsent := [], pendingLost := [], quiet := true } := by
  have hr := resent_nil_of_nodup c h.sentnd
  simp only [observe] at hr
  simp [observe, nextOp, hr, h.evq, h.rpq, h.notes, h.timers, h.pending, h.orphans]

/-! #### flat skeletons: sequences, and fan-outs whose branches are sequences -/

open Asl.Crash in
/-- **Exactly once, with fan-outs.**  For every *flat* skeleton `sk` — Task visits (first attempts and retries), plain steps
and Waits, and any number of Parallel / Map states (without MaxConcurrency, or with one that is at least the number of
branches: one batch), one after the other, each with any number of
branches that are sequences of Task visits, steps and Waits — and every schedule — any interleaving of the branches'
operations that the protocol has enabled, the engine dying and restarting between two handler invocations any number of
times, at any points (before the launch, between the branches' visits, with any part of the join filled) —, letting the
engine run on crash-free ends the execution: exactly one terminal notification, each of the `tasksIn sk` requests (of the
top level and of every branch) sent exactly once, and nothing left in the event queue, the reply queue or the engine's
memory (timers, pending requests, orphans, joins).  The join a crash wiped is rebuilt from the redelivered held events and
held replies; nothing is requested again.  (`Proofs/Lemmas/CrashFlat*.lean`: the invariant `PInv` over the operation list,
no bound on its length, on the number of branches or on the number of fan-out states.) -/
theorem crash_safe_flat (sk : Sk) (hsk : sk.flat = true) (ops : List Op) (c : Cfg)
    (hr : Crash.run Quirks.none (init sk) (ops.map (fun o => (o, none))) = some c) :
    Ended (tasksIn sk) (drain Quirks.none (mu2 c) c) ∧
      observe (drain Quirks.none (mu2 c) c) =
        { terminal := true, notes := 1, resent := [], pendingUnsent := [], pendingLost := [], quiet := true } := by
  have hi := prun (pinv_init sk hsk) hr
  obtain ⟨hi', hq⟩ := pdrain (mu2 c) c hi (Nat.le_refl _)
  have he := ended_of_quiet hi' hq
  exact ⟨he, observe_ended _ _ he⟩

/-! #### sequences: there the protocol also survives a crash *inside* a handler -/

open Asl.Crash in
/-- **Exactly once.**  For every sequence `sk` of Task visits — each event carrying any RetryCount: the event of a retry
sends its request from the back-off timer —, plain steps and Waits, and every schedule — any operations in any order
that the protocol has enabled, the engine dying and restarting between two handler invocations any number of times, at
any points —, letting the engine run on crash-free ends the execution (`Ended`): exactly one terminal notification, each
of the `tasksIn sk` requests sent exactly once (none twice: a redelivered event, first attempt or retry, whose request
is on record as sent does not send it again; none missing), and nothing is left in the event queue, the reply queue or
the engine's memory.  (The instance of `crash_safe_flat` without fan-out states; that the fuel `mu c` is enough is
`sdrain` of `Proofs/Lemmas/CrashSeq.lean`.) -/
theorem crash_safe_sequences (sk : Sk) (hsk : sk.seq = true) (ops : List Op) (c : Cfg)
    (hr : Crash.run Quirks.none (init sk) (ops.map (fun o => (o, none))) = some c) :
    Ended (tasksIn sk) (drain Quirks.none (mu c) c) ∧
      observe (drain Quirks.none (mu c) c) =
        { terminal := true, notes := 1, resent := [], pendingUnsent := [], pendingLost := [], quiet := true } := by
  have hq := (sdrain (mu c) c (sinv_run (sinv_init sk hsk) hr) (Nat.le_refl _)).2
  rw [← drain_of_le Quirks.none c hq (mu_le_mu2 c)]
  exact crash_safe_flat sk (flat_of_seq hsk) ops c hr

open Asl.Crash in
/-- **No loss at any cut.**  The same sequences under every schedule whose handler invocations may, each, be cut short
by a crash after any number of their broker operations (and crashes between invocations, any number of both): the
execution is not lost — the crash-free run that follows comes to rest with the terminal notification sent (at least
once: a handler cut after the notification and before the acknowledgement repeats it, which is why the property asks
for less here), no event left, no timer or request pending, and still no correlation id requested twice; what may be
left in the reply queue are replies to requests that were sent (their event acknowledged, their own acknowledgement
cut off). -/
theorem no_loss_under_cuts_sequences (sk : Sk) (hsk : sk.seq = true) (sched : Sched) (c : Cfg)
    (hr : Crash.run Quirks.none (init sk) sched = some c) :
    let c' := drain Quirks.none (mu c) c
    c'.evq = [] ∧ 1 ≤ c'.notes ∧ c'.sent.Nodup ∧ c'.timers = [] ∧ c'.pending = [] ∧ nextOp c' = none ∧
      (∀ r ∈ c'.rpq, r.corr ∈ c'.sent) := by
  have hi := sinv_run (sinv_init sk hsk) hr
  obtain ⟨hi', hq⟩ := sdrain (mu c) c hi (Nat.le_refl _)
  have hev := quiet_empty hi' hq
  refine ⟨hev, ?_, hi'.dur.sentnd, (hi'.vol.idle hev).1, (hi'.vol.idle hev).2, hq, ?_⟩
  · rcases hi'.dur.alive with h | h
    · simp [evK, hev] at h
    · exact h
  · intro r hr'; exact hi'.dur.corrsent _ (List.mem_map.mpr ⟨r, hr', rfl⟩)

open Asl.Crash in
theorem tasks_seq (N : Nat) : (tasks N).seq = true ∧ tasksIn (tasks N) = N := by
  induction N with
  | zero => exact ⟨rfl, rfl⟩
  | succ n ih => exact ⟨ih.1, by simp [tasks, tasksIn, ih.2]⟩

open Asl.Crash in
/-- the special case of `N` Task visits in a row -/
theorem crash_safe_task_sequences (N : Nat) (ops : List Op) (c : Cfg)
    (hr : Crash.run Quirks.none (init (tasks N)) (ops.map (fun o => (o, none))) = some c) :
    Ended N (drain Quirks.none (mu c) c) ∧
      observe (drain Quirks.none (mu c) c) =
        { terminal := true, notes := 1, resent := [], pendingUnsent := [], pendingLost := [], quiet := true } := by
  have := crash_safe_sequences (tasks N) (tasks_seq N).1 ops c hr
  rwa [(tasks_seq N).2] at this

open Asl.Crash in
/-- … which is the outcome of the crash-free run (the empty schedule) -/
theorem crash_free_task_sequences (N : Nat) :
    Ended N (drain Quirks.none (mu (init (tasks N))) (init (tasks N))) :=
  (crash_safe_task_sequences N [] (init (tasks N)) (by simp [Crash.run])).1

/-! #### every skeleton: no request is sent twice -/

open Asl.Crash in
/-- **Never twice, on every skeleton.**  For EVERY skeleton `sk` the model can express — Task visits and retries, steps,
Waits, Parallel / Map states with any MaxConcurrency (batches and their re-entry events), fan-outs nested to any depth,
synchronous child executions, failure points caught at any level or failing the execution — and EVERY schedule of the
quirk-free protocol — any interleaving, the engine dying between handler invocations or inside them (each handler cut
short after any number of its broker operations) —, and however long the engine then runs on crash-free (`fuel`): the
correlation ids of the requests sent are pairwise different, so `observe` reports no request as sent again.  This is the
property's clause "a Task whose request went out before the crash is not requested again" at full generality (per
correlation id; that the *count* of requests is the crash-free one is `crash_safe_flat`, on the class proved there —
the re-launched batch of C04-F7 sends under fresh ids).  With `requestFromTimer` (C04-F1) on it fails:
`redelivered_retry_not_resent`.  (`Proofs/Lemmas/CrashSent.lean`: no handler's operation list has a request except the one
the delivery / deferred handler of a Task visit puts first, and that one is guarded by the durable record.) -/
theorem never_requested_twice (sk : Sk) (sched : Sched) (c : Cfg)
    (hr : Crash.run Quirks.none (init sk) sched = some c) (fuel : Nat) :
    c.sent.Nodup ∧ (drain Quirks.none fuel c).sent.Nodup ∧ (observe (drain Quirks.none fuel c)).resent = [] := by
  have h0 : (init sk).sent.Nodup := List.nodup_nil
  have h1 := run_sent_nodup sched _ c hr h0
  have h2 := drain_sent_nodup fuel c h1
  exact ⟨h1, h2, resent_nil_of_nodup _ h2⟩

open Asl.Crash in
/-- The full-strength statement: the quirk-free protocol is crash-safe on skeleton `sk` — every schedule with crashes
between handler invocations anywhere ends, after a crash-free run, with one terminal notification, every request (Task
visits of all levels, child executions started) sent exactly once and nothing left behind. -/
def CrashSafe (sk : Sk) : Prop :=
  ∀ (ops : List Op) (c : Cfg), Crash.run Quirks.none (init sk) (ops.map (fun o => (o, none))) = some c →
    ∃ fuel, Ended (tasksIn sk) (drain Quirks.none fuel c)

open Asl.Crash in
/-- `CrashSafe` is proved for flat skeletons: sequences, and fan-out states whose branches are sequences, without
MaxConcurrency or with a MaxConcurrency of at least the number of branches (one batch).  What is missing for
`∀ sk, CrashSafe sk` (on skeletons without `fail` / `opaque`):
* Map states whose MaxConcurrency `mc` is smaller than the number of items.  The model has the batches, their re-entry events
  and the durable record of started batches (the quirk-free protocol re-enters only for a batch that exists,
  `from_ + mc < width` — the example "no re-entry event beyond the last batch" below), the `decide` examples below run them,
  and `never_requested_twice` covers them for the "not again" clause.  `Proofs/Lemmas/CrashBatch.lean` and
  `CrashBatchInv.lean` hold the parts of the invariant that speak of the record and the re-entry events, as lemmas of their
  own: `PInv` does not have them.
* fan-out states nested in branches (the crash-safe hand-over of a nested join's held events to the enclosing join), and
* synchronous child executions (a second execution whose terminal answer is a message of the reply queue). -/
theorem crash_safe_partial (sk : Sk) (hsk : sk.flat = true) : CrashSafe sk :=
  fun ops c hr => ⟨mu2 c, (crash_safe_flat sk hsk ops c hr).1⟩

open Asl.Crash in
/-- sequences are flat: `crash_safe_sequences` is the instance without fan-out states -/
theorem crash_safe_sequences_flat (sk : Sk) (hsk : sk.seq = true) : CrashSafe sk :=
  crash_safe_partial sk (flat_of_seq hsk)

namespace Witness
open Asl.Crash
/-- a Task whose first attempt fails and is retried (the retry's event carries RetryCount 1), then a step -/
def retried : Sk := .task 0 (.task 1 (.step .done))
/-- the retry's request is out (sent from its back-off timer), the engine dies, the retry's event is redelivered and its
deferred handler runs again -/
def schedRetry : Sched :=
  [(.ev 0, none), (.tm 0, none), (.rp 0, none), (.ev 1, none), (.tm 1, none), (.crash, none), (.ev 1, none), (.tm 1, none)]
/-- the last handler of one Task visit cut short after its first broker operation (the terminal notification) -/
def schedCutNote : Sched := [(.ev 0, none), (.rp 0, some 1)]
end Witness

open Asl.Crash Witness in
/-- the path the seeded change S-C04-4 breaks, concretely: a redelivered *retry* event whose request is out does not send it
again — in the crash-safe protocol (the request is on record) and in the engine's (a redelivered event is taken to have
been requested) -/
theorem redelivered_retry_not_resent :
    (Crash.run Quirks.none (init retried) schedRetry).map (fun c => (c.sent, (observe (drain Quirks.none 200 c)).resent, (observe (drain Quirks.none 200 c)).terminal)) =
      some ([0, 1], [], true) ∧
    (Crash.run Quirks.engine (init retried) schedRetry).map (fun c => (c.sent, (observe (drain Quirks.engine 200 c)).resent, (observe (drain Quirks.engine 200 c)).terminal)) =
      some ([0, 1], [], true) := by decide +kernel

open Asl.Crash Witness in
/-- why `no_loss_under_cuts_sequences` says "at least once": a cut after the terminal notification repeats it -/
theorem cut_repeats_terminal_notification :
    (Crash.run Quirks.none (init (tasks 1)) schedCutNote).map (fun c => (drain Quirks.none 200 c).notes) = some 2 := by
  decide +kernel

/-! ### each quirk breaks it: the formal counterparts of the open findings C04-F1, C04-F2, C04-F4

A skeleton and a schedule with ONE crash after which nothing is enabled and the execution has not ended —
and the same schedule with the quirk off completes. -/

namespace Witness
open Asl.Crash
def nc (op : Op) : Op × Option Nat := (op, none)
/-- does the run get stuck? (`none`: the schedule is not executable) -/
def stuckAfter (q : Quirks) (sk : Sk) (sched : Sched) : Option Bool :=
  (Crash.run q (init sk) sched).map (fun c => stuck (drain q 200 c))
def par2 : Sk := .par 0 (.cons (.task 0 .done) (.cons (.task 0 .done) .nil)) (.step .done)
def nested : Sk := .par 0 (.cons (.par 0 (.cons (.step .done) .nil) .done) (.cons (.task 0 .done) .nil)) .done
/-- the Task's event is delivered, the engine dies before the deferred handler sends the request -/
def schedF1 : Sched := [nc (.ev 0), nc .crash]
/-- both branches' requests are out, the first reply is handled (and acknowledged), the engine dies -/
def schedF2 : Sched := [nc (.ev 0), nc (.tm 0), nc (.ev 1), nc (.tm 1), nc (.ev 2), nc (.tm 2), nc (.rp 1), nc .crash]
/-- the nested fan-out has completed and ended its branch, the engine dies before the other branch is done -/
def schedF4 : Sched := [nc (.ev 0), nc (.tm 0), nc (.ev 1), nc (.tm 1), nc (.ev 3), nc .crash]
end Witness

open Asl.Crash Witness in
/-- C04-F1 -/
theorem requestFromTimer_gets_stuck :
    stuckAfter { requestFromTimer := true } (tasks 1) schedF1 = some true ∧
    stuckAfter Quirks.none (tasks 1) schedF1 = some false := by decide +kernel

open Asl.Crash Witness in
/-- C04-F2 -/
theorem replyAckedBeforeJoin_gets_stuck :
    stuckAfter { replyAckedBeforeJoin := true } par2 schedF2 = some true ∧
    stuckAfter Quirks.none par2 schedF2 = some false := by decide +kernel

open Asl.Crash Witness in
/-- C04-F4 -/
theorem nestedJoinAcksEarly_gets_stuck :
    stuckAfter { nestedJoinAcksEarly := true } nested schedF4 = some true ∧
    stuckAfter Quirks.none nested schedF4 = some false := by decide +kernel

open Asl.Crash Witness in
/-- … and the engine as it is (all three on) is stuck on all three -/
theorem engine_quirks_get_stuck :
    stuckAfter Quirks.engine (tasks 1) schedF1 = some true ∧ stuckAfter Quirks.engine par2 schedF2 = some true ∧
    stuckAfter Quirks.engine nested schedF4 = some true := by decide +kernel

/-! ### a quirk only hurts in its window

With `requestFromTimer` (C04-F1) on, the window is: *some Task event has been delivered and its request is
not sent yet* — formally `inWindow c`: a deferred handler is armed for an event whose correlation id is not
among the requests sent.  Crashes anywhere else, any number of them, still let a sequence of Task visits
complete with every request sent exactly once. -/

open Asl.Crash in
theorem quirks_only_hurt_at_their_window (N : Nat) (ops : List Op) (c : Cfg)
    (hr : runW qF1 (init (tasks N)) ops = some c) :
    ∃ nextId sent running, drain qF1 (mu1 c) c = cfgEnd nextId sent running ∧ sent.Nodup ∧ sent.length = N ∧
      observe (drain qF1 (mu1 c) c) =
        { terminal := true, notes := 1, resent := [], pendingUnsent := [], pendingLost := [], quiet := true } := by
  have hi := inv1_run (inv1_init N) hr
  obtain ⟨nextId, sent, running, hd, hnd, hlen⟩ := drain1_ends (N := N) (mu1 c) c hi (Nat.le_refl _)
  refine ⟨nextId, sent, running, hd, hnd, hlen, ?_⟩
  rw [hd]
  exact observe_ended N _
    { evq := rfl, rpq := rfl, notes := rfl, sentnd := hnd, sentlen := hlen, timers := rfl, pending := rfl, orphans := rfl, joins := rfl }

open Asl.Crash Witness in
/-- the window is exactly where the witness `schedF1` crashes, and a crash one operation later (the request is out)
is harmless: `runW` refuses the first schedule and accepts the second -/
theorem window_is_tight :
    runW qF1 (init (tasks 1)) [.ev 0, .crash] = none ∧
    (runW qF1 (init (tasks 1)) [.ev 0, .tm 0, .crash]).isSome = true ∧
    (Crash.run qF1 (init (tasks 1)) [nc (.ev 0)]).map inWindow = some true := by decide +kernel

/-! non-vacuity -/
example : ((BQ.run [.publish 1, .publish 2, .deliver, .deliver, .ack 1, .publish 3]).step .crash).ready
    = [{ id := 2, redelivered := true }, { id := 3 }] := by decide
example : stepOrdered [.deliver 1, .pub, .pub, .ack 1] = true := by decide

/-- hypothesis of `crash_safe_sequences`: a sequence with a retried Task, a Wait and a step, a schedule with three
crashes that is executable -/
example : (Asl.Crash.Sk.task 0 (.task 1 (.wait (.step .done)))).seq = true ∧
    (Asl.Crash.run Asl.Crash.Quirks.none (Asl.Crash.init (.task 0 (.task 1 (.wait (.step .done)))))
      ([Asl.Crash.Op.ev 0, .crash, .ev 0, .rp 0, .ev 1, .crash, .ev 1, .tm 1, .crash, .rp 1, .ev 1, .tm 1, .tick, .ev 2, .tm 2].map
        (fun o => (o, none)))).isSome = true := by
  decide +kernel
/-- … of `no_loss_under_cuts_sequences`: handlers cut after 0, 1 and 2 broker operations -/
example : (Asl.Crash.run Asl.Crash.Quirks.none (Asl.Crash.init (.task 0 (.step .done)))
    [(.ev 0, some 0), (.ev 0, some 1), (.ev 0, none), (.rp 0, some 1), (.ev 0, none), (.rp 0, some 2), (.ev 1, none)]).isSome = true := by
  decide +kernel
/-- … and of `quirks_only_hurt_at_their_window`: crashes outside the window -/
example : (Asl.Crash.runW Asl.Crash.qF1 (Asl.Crash.init (Asl.Crash.tasks 2))
    [.ev 0, .tm 0, .crash, .rp 0, .ev 0, .tm 0, .tick, .crash, .ev 1]).isSome = true := by decide +kernel
/-- hypothesis of `crash_safe_flat`: a Task, then a Parallel with three branches (a retried Task and a step; a Wait; a Task), then
a step; a schedule with four crashes (before the launch, between the branches' visits, with part of the join filled) that is
executable -/
example : (Asl.Crash.Sk.task 0 (.par 0 (.cons (.task 0 (.task 1 (.step .done))) (.cons (.wait .done) (.cons (.task 0 .done) .nil)))
      (.step .done))).flat = true ∧
    (Asl.Crash.run Asl.Crash.Quirks.none (Asl.Crash.init (.task 0 (.par 0 (.cons (.task 0 (.task 1 (.step .done)))
        (.cons (.wait .done) (.cons (.task 0 .done) .nil))) (.step .done))))
      ([Asl.Crash.Op.ev 0, .rp 0, .ev 1, .crash, .ev 1, .tm 1, .ev 2, .ev 4, .crash, .ev 3, .tm 3, .rp 4, .ev 4, .ev 2, .tick,
        .crash, .ev 2, .rp 2, .ev 3, .tm 3].map (fun o => (o, none)))).isSome = true := by
  decide +kernel
/-- … with a MaxConcurrency: a Map over two items, three at a time, with a crash while the join is half full -/
example : (Asl.Crash.Sk.par 3 (.cons (.task 0 (.step .done)) (.cons (.task 0 (.step .done)) .nil)) (.step .done)).flat = true ∧
    (Asl.Crash.run Asl.Crash.Quirks.none (Asl.Crash.init (.par 3 (.cons (.task 0 (.step .done)) (.cons (.task 0 (.step .done)) .nil)) (.step .done)))
      ([Asl.Crash.Op.ev 0, .tm 0, .ev 1, .rp 1, .ev 3, .crash, .ev 2, .ev 3].map (fun o => (o, none)))).isSome = true := by
  decide +kernel
/-- hypothesis of `never_requested_twice`: a Map with MaxConcurrency 1 over a Task and a nested Parallel (a child execution and
a Wait), then a failure point; the launch cut short after its first broker operation, a Task's delivery cut before its
request, the engine dying once more between handlers -/
example : (Asl.Crash.run Asl.Crash.Quirks.none
      (Asl.Crash.init (.par 1 (.cons (.task 0 (.step .done))
        (.cons (.par 0 (.cons (.child 0 (.task 0 .done) .done) (.cons (.wait .done) .nil)) .done) .nil)) (.fail none .done)))
      [(.ev 0, none), (.tm 0, some 1), (.ev 0, none), (.tm 0, none), (.ev 1, some 0), (.ev 1, none), (.crash, none),
       (.ev 2, none), (.ev 1, none)]).isSome = true := by
  decide +kernel
/-- no re-entry event beyond the last batch: a Map with MaxConcurrency 1 over two items, the engine dies once the second item is
launched, the second item ends first (the LAST batch is full while the join is not): the crash-safe protocol publishes
nothing (`from_ + mc < width` fails), and when the first item's event has been redelivered the execution has ended with an
empty event queue; the engine's rule (`batchRelaunched`, C04-F7) re-enters for slot 2 of 2 and ends with that event queued -/
example :
    ((Asl.Crash.run Asl.Crash.Quirks.none (Asl.Crash.init (.par 1 (.cons (.step .done) (.cons (.step .done) .nil)) .done))
      ([Asl.Crash.Op.ev 0, .tm 0, .ev 1, .ev 2, .tm 2, .crash, .ev 3, .ev 1].map (fun o => (o, none)))).map
        (fun c => (c.evq.map (fun m => match m.kind with | .reenter _ s _ _ => some s | _ => none), c.notes))) =
      some ([], 1) ∧
    ((Asl.Crash.run { batchRelaunched := true } (Asl.Crash.init (.par 1 (.cons (.step .done) (.cons (.step .done) .nil)) .done))
      ([Asl.Crash.Op.ev 0, .tm 0, .ev 1, .ev 2, .tm 2, .crash, .ev 3, .ev 1].map (fun o => (o, none)))).map
        (fun c => (c.evq.map (fun m => match m.kind with | .reenter _ s _ _ => some s | _ => none), c.notes))) =
      some ([some 2], 1) := by
  decide +kernel
/-- beyond the proved class, by computation: a Map with MaxConcurrency 1 over two items (Task, then step) with a crash
after the second batch was started — the crash-safe protocol does not start the batch again (two requests), the engine's
does (three: the open finding C04-F7) -/
example :
    ((Asl.Crash.run Asl.Crash.Quirks.none (Asl.Crash.init (.par 1 (.cons (.task 0 (.step .done)) (.cons (.task 0 (.step .done)) .nil)) .done))
      ([Asl.Crash.Op.ev 0, .tm 0, .ev 1, .rp 1, .ev 2, .ev 3, .tm 3, .crash, .ev 2].map (fun o => (o, none)))).map
        (fun c => ((Asl.Crash.drain Asl.Crash.Quirks.none 200 c).sent.length, (Asl.Crash.drain Asl.Crash.Quirks.none 200 c).notes))) = some (2, 1) ∧
    ((Asl.Crash.run { batchRelaunched := true } (Asl.Crash.init (.par 1 (.cons (.task 0 (.step .done)) (.cons (.task 0 (.step .done)) .nil)) .done))
      ([Asl.Crash.Op.ev 0, .tm 0, .ev 1, .rp 1, .ev 2, .ev 3, .tm 3, .crash, .ev 2].map (fun o => (o, none)))).map
        (fun c => ((Asl.Crash.drain { batchRelaunched := true } 200 c).sent.length, (Asl.Crash.drain { batchRelaunched := true } 200 c).notes))) = some (3, 1) := by
  decide +kernel
/-- the crash-safe protocol on the fan-out witnesses: the reply is held by the join / the nested join's events by the
enclosing one, and the runs complete with every request sent once -/
example : (Asl.Crash.run Asl.Crash.Quirks.none (Asl.Crash.init Witness.par2) Witness.schedF2).map
    (fun c => Asl.Crash.observe (Asl.Crash.drain Asl.Crash.Quirks.none 200 c)) =
    some { terminal := true, notes := 1, resent := [], pendingUnsent := [], pendingLost := [], quiet := true } := by
  decide +kernel

end Asl.C04
