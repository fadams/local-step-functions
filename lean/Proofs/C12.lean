/-
C12 — InputPath/OutputPath/ResultPath obey the filter laws and never corrupt data.
-/
import AslModel.Path
import Proofs.Lemmas.Obj
import Proofs.Lemmas.PathText
namespace Asl.C12

/-- Placing then reading the same path returns the placed value — for every document,
every definite path and every value (including the document itself). -/
theorem put_get (d : Json) (p : List Str) (v d' : Json) (h : put d p v = .ok d') :
    get? d' p = some v := by
  induction p generalizing d d' with
  | nil =>
    cases h
    rfl
  | cons k ks ih =>
    obtain ⟨sub', hput, hk, _⟩ := put_cons_step h
    simp [get?, hk, ih _ sub' hput]

/-- value semantics of placing a document inside itself: the result is an ordinary finite
tree whose `p` holds the *old* document. -/
theorem put_self (d : Json) (p : List Str) (d' : Json) (h : put d p d = .ok d') :
    get? d' p = some d := put_get d p d d' h

/-- two segments that can never address the same member of any container -/
def SegDiff (a b : Str) : Prop :=
  a ≠ b ∧ (isDigits a = true → isDigits b = true → digitsVal a ≠ digitsVal b)

theorem get_empty_obj_cons (k : Str) (ks : List Str) : get? (.obj []) (k :: ks) = none := by
  simp [get?, getStep, objGet]

/-- frame law, diverging paths: placing at `c ++ a :: p` leaves what any path
`c ++ b :: q` (with `b` a different member than `a`) reads unchanged. -/
theorem put_frame (d : Json) (c : List Str) (a b : Str) (p q : List Str) (v d' : Json)
    (hab : SegDiff a b) (h : put d (c ++ a :: p) v = .ok d') :
    get? d' (c ++ b :: q) = get? d (c ++ b :: q) := by
  induction c generalizing d d' with
  | nil =>
    obtain ⟨_, _, _, hb⟩ := put_cons_step h
    simp [get?, hb b hab.1 hab.2]
  | cons k ks ih =>
    obtain ⟨sub', hput, hk, _⟩ := put_cons_step h
    simp only [List.cons_append, get?, hk, ih _ sub' hput]
    cases getStep d k with
    | some sub => rfl
    | none =>
      -- the member was created
      cases ks <;> exact get_empty_obj_cons _ _

/-- `$` replaces: placing at the root returns the result -/
theorem put_root (d v : Json) : applyResultPath d v (some ['$']) = .ok v := by
  rw [applyResultPath_of_parseRef]
  rfl

/-- a null ResultPath discards the result and keeps the input -/
theorem put_null (d v : Json) (h : d ≠ .null) : applyResultPath d v none = .ok d := by
  simp [applyResultPath, h]

/-- `$` selects the whole input -/
theorem get_root (d : Json) (h : d ≠ .null) : applyJsonPathText d ['$'] = .ok d := by
  simp [applyJsonPathText, h]

/-- a null path selects `{}` -/
theorem get_null_is_empty_object (d ctx : Json) : applyPath d ctx none = .ok (.obj []) := rfl

/-- compositionality: a definite path returns exactly the addressed value -/
theorem get_append (d : Json) (p q : List Str) :
    get? d (p ++ q) = (get? d p).bind (fun t => get? t q) := by
  fun_induction get? d p <;> simp [get?, *]

/-- a path that matches nothing fails with the path-match failure: no value is invented -/
theorem get_missing_fails (d : Json) (text : Str) (segs : List Str)
    (hd : d ≠ .null) (ht : text ≠ ['$']) (hp : parseRef text = some segs)
    (hm : get? d segs = none) :
    applyJsonPathText d text = .error .pathMatch := by
  simp [applyJsonPathText, hd, ht, hp, hm]

/-- and a path that matches returns exactly the addressed value -/
theorem get_hit (d : Json) (text : Str) (segs : List Str) (v : Json)
    (hp : parseRef text = some segs) (hm : get? d segs = some v) (hs : segs ≠ []) :
    applyJsonPathText d text = .ok v := by
  have ht : text ≠ ['$'] := ne_dollar_of_parseRef hp hs
  obtain ⟨k, ks, rfl⟩ := List.exists_cons_of_ne_nil hs
  have hd : d ≠ .null ∧ d.truthy = true := by
    cases d with
    | obj kvs => cases kvs <;> simp [get?, getStep, objGet, Json.truthy] at hm ⊢
    | arr xs => cases xs <;> simp [get?, getStep, Json.truthy] at hm ⊢
    | _ => simp [get?, getStep] at hm
  simp [applyJsonPathText, hd, ht, hp, hm]

/-- a `$$` path reads the context object, whatever the input -/
theorem ctx_routing (d ctx : Json) (rest : Str) :
    applyPath d ctx (some ('$' :: '$' :: rest)) = applyJsonPathText ctx ('$' :: rest) := rfl

/-- dot, bracket-quoted and index notation denote the same segment list: printing any
admissible segment list in any mixture of notations and parsing it back yields the names. -/
theorem parse_print_refpath (ss : List Seg) (h : ∀ s ∈ ss, s.ok = true) :
    parseRef (printRef ss) = some (ss.map Seg.name) := by
  simp only [printRef, parseRef]
  exact parseSegs_print ss h _ (Nat.le_refl _)

/-- "alike": two spellings of the same names are the same path -/
theorem notation_irrelevant (ss ts : List Seg) (hs : ∀ s ∈ ss, s.ok = true)
    (ht : ∀ s ∈ ts, s.ok = true) (hn : ss.map Seg.name = ts.map Seg.name) :
    parseRef (printRef ss) = parseRef (printRef ts) := by
  rw [parse_print_refpath ss hs, parse_print_refpath ts ht, hn]

theorem put_error_kind (d : Json) (p : List Str) (v : Json) (e : PErr)
    (h : put d p v = .error e) : e = .resultPath := by
  -- a failing arm answers `.resultPath` or is the recursive call's
  fun_induction put d p v <;> cases h
  all_goals first | rfl | exact ‹_ → _› ‹_›

/-- every failure of ResultPath placement is the ResultPath failure, never another error -/
theorem put_unplaceable_is_resultpath_failure (d v : Json) (path : Option Str) (e : PErr)
    (h : applyResultPath d v path = .error e) : e = .resultPath := by
  cases path with
  | none => simp [applyResultPath] at h
  | some p =>
    rw [applyResultPath_of_parseRef] at h
    split at h
    · cases h; rfl
    · exact put_error_kind _ _ _ _ h

/-- text-level round trip: placing with a Reference Path text and selecting with the same
text returns the result (engine entry points, both notations). -/
theorem resultpath_then_path (d v d' : Json) (text : Str) (segs : List Str)
    (hp : parseRef text = some segs) (hs : segs ≠ [])
    (h : applyResultPath d v (some text) = .ok d') :
    applyJsonPathText d' text = .ok v := by
  rw [applyResultPath_of_parseRef, hp] at h
  exact get_hit d' text segs v hp (put_get _ _ _ _ h) hs

/-! ### non-vacuity -/

private def k (s : String) : Str := s.toList
private def doc : Json :=
  .obj [(k "a", .obj [(k "b", .num 1), (k "c", .arr [.num 7, .num 8])]), (k "z", .str (k "keep"))]

example : ∃ d', put doc [k "a", k "c", k "1"] (.str (k "new")) = .ok d' ∧
    get? d' [k "a", k "c", k "1"] = some (.str (k "new")) ∧
    get? d' [k "a", k "c", k "0"] = some (.num 7) ∧ get? d' [k "z"] = some (.str (k "keep")) :=
  ⟨_, rfl, by decide +kernel⟩

example : ∃ d', put doc [k "a", k "self"] doc = .ok d' ∧ get? d' [k "a", k "self"] = some doc :=
  ⟨_, rfl, by decide +kernel⟩

example : SegDiff (k "b") (k "c") := ⟨by decide +kernel, by decide +kernel⟩
example : SegDiff (k "0") (k "1") := ⟨by decide +kernel, by decide +kernel⟩

example : parseRef (printRef [.dot (k "a"), .brq (k "b c"), .idx (k "12")]) =
    parseRef (printRef [.brq (k "a"), .dot (k "b c"), .idx (k "12")]) := by decide +kernel

example : put doc [k "z", k "x"] .null = .error .resultPath := by rfl

example : applyResultPath doc (.num 5) (some "$['a'].b".toList) =
    applyResultPath doc (.num 5) (some "$.a['b']".toList) := by
  have h : parseRef "$['a'].b".toList = parseRef "$.a['b']".toList := by
    -- `String.toList` of a literal is slow to evaluate
    rw [String.toList_ofList, String.toList_ofList]
    decide +kernel
  rw [applyResultPath_of_parseRef, applyResultPath_of_parseRef, h]

end Asl.C12
