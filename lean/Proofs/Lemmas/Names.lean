/-
Helper lemmas for C17: the two character scanners (`breakAt`, `rbreakAt`) and how `parseArn`
reads a text that `createArn` wrote.
-/
import AslModel.Names
namespace Asl

theorem breakAt_append (c : Char) (a b : Str) (h : c ∉ a) :
    breakAt c (a ++ c :: b) = some (a, b) := by
  induction a <;> grind [breakAt]

theorem breakAt_none (c : Char) (s : Str) (h : c ∉ s) : breakAt c s = none := by
  fun_induction breakAt c s <;> grind

theorem breakAt_some {c : Char} {s a b : Str} (h : breakAt c s = some (a, b)) :
    s = a ++ c :: b ∧ c ∉ a := by
  fun_induction breakAt c s generalizing a <;> grind

theorem rbreakAt_append (c : Char) (a b : Str) (h : c ∉ b) :
    rbreakAt c (a ++ c :: b) = some (a, b) := by
  have hr : c ∉ b.reverse := by simpa using h
  have : (a ++ c :: b).reverse = b.reverse ++ c :: a.reverse := by simp
  simp [rbreakAt, this, breakAt_append c _ _ hr]

theorem rbreakAt_some {c : Char} {s a b : Str} (h : rbreakAt c s = some (a, b)) :
    s = a ++ c :: b ∧ c ∉ b := by
  simp only [rbreakAt] at h
  split at h
  · rename_i x y hb
    cases h
    have := breakAt_some hb
    refine ⟨?_, by simpa using this.2⟩
    have h2 := congrArg List.reverse this.1
    simpa using h2
  · cases h

theorem parseArn_createArn_fields (p : Arn) (h1 : ':' ∉ p.arn) (h2 : ':' ∉ p.partition)
    (h3 : ':' ∉ p.service) (h4 : ':' ∉ p.region) (h5 : ':' ∉ p.account) :
    parseArn (createArn p) = some ⟨p.arn, p.partition, p.service, p.region, p.account,
      (splitResource (resourceText p.resourceType p.resource)).1,
      (splitResource (resourceText p.resourceType p.resource)).2⟩ := by
  simp [parseArn, createArn, breakAt_append, h1, h2, h3, h4, h5]

theorem parseArn_some (s : Str) (p : Arn) (h : parseArn s = some p) :
    ∃ r, s = p.arn ++ ':' :: (p.partition ++ ':' :: (p.service ++ ':' :: (p.region ++ ':' ::
        (p.account ++ ':' :: r)))) ∧
      p.resourceType = (splitResource r).1 ∧ p.resource = (splitResource r).2 := by
  revert h
  fun_cases parseArn s <;> rintro ⟨⟩
  -- the five `breakAt` equations of the accepting branch
  rename_i h1 _ _ h2 _ _ h3 _ _ h4 _ r h5
  exact ⟨r, by rw [(breakAt_some h1).1, (breakAt_some h2).1, (breakAt_some h3).1, (breakAt_some h4).1,
    (breakAt_some h5).1], rfl, rfl⟩

theorem splitResource_none (r : Str) (hc : ':' ∉ r) (hs : '/' ∉ r) :
    splitResource r = (none, r) := by
  simp [splitResource, breakAt_none, hc, hs]

theorem splitResource_typed (t r : Str) (htc : ':' ∉ t) (hts : '/' ∉ t) (hrs : '/' ∉ r) :
    splitResource (t ++ ':' :: r) = (some t, r) := by
  have hs : '/' ∉ t ++ ':' :: r := by simp [hts, hrs]
  simp [splitResource, breakAt_none _ _ hs, breakAt_append _ _ _ htc]

theorem sArn_nocolon : ':' ∉ sArn := by decide
theorem sAws_nocolon : ':' ∉ sAws := by decide
theorem sStates_nocolon : ':' ∉ sStates := by decide

theorem nameCharOk_of_validName (s : Str) (h : validName s = true) : ∀ c ∈ s, nameCharOk c = true := by
  simp only [validName, Bool.and_eq_true, List.all_eq_true] at h
  exact h.2

end Asl
