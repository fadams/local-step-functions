/-
The crash protocol (AslModel/Crash.lean) with all quirks off on *flat* skeletons: sequences of Task visits (with retries),
plain steps, Waits and Parallel / Map states whose branches are such sequences (a MaxConcurrency only when it is at least
the number of branches: one batch).  Crashes between handler invocations.  `PInv N c`: the reachable configurations —
durable part, engine's memory, the shape of the event queue (one top-level event, or one event per branch of ONE fan-out
attempt), the join, the conservation laws; `Hand` is `PInv` with a message in hand.
-/
import Proofs.Lemmas.CrashHandlers
namespace Asl.Crash

def Br.allSeq : Br → Bool
  | .nil => true
  | .cons b bs => b.seq && bs.allSeq

def Sk.flat : Sk → Bool
  | .done => true
  | .task _ r => r.flat
  | .step r => r.flat
  | .wait r => r.flat
  | .par mc brs r => (mc == 0 || decide (brs.toList.length ≤ mc)) && brs.allSeq && r.flat
  | _ => false

def Frame.width (f : Frame) : Nat := f.branches.toList.length

def Frame.wf (f : Frame) : Bool := (f.mc == 0 || decide (f.width ≤ f.mc)) && f.branches.allSeq && f.rest.flat && decide (f.idx < f.width)

def flatKind : EvKind → Bool
  | .visit t [] _ none => t.flat
  | .visit t [f] false none => t.seq && f.wf
  | _ => false

abbrev FlatK (k : EvKind) : Prop := flatKind k = true

/-- nothing follows the visit in its sequence: when it is over, the branch (or the execution) ends -/
def lastVisit (k : EvKind) : Bool :=
  match todoOf k with
  | .done => true
  | .task _ .done => true
  | .step .done => true
  | .wait .done => true
  | _ => false

/-- what follows the fan-out state is accounted to the event of its first branch -/
def restT (k : EvKind) : Nat :=
  match evStack k with
  | f :: _ => if f.idx = 0 then tasksIn f.rest else 0
  | [] => 0

/-- … and so is its weight: its visits, and eight units for the hand-over -/
def restW (k : EvKind) : Nat :=
  match evStack k with
  | f :: _ => if f.idx = 0 then 8 * visits f.rest + 8 else 0
  | [] => 0

/-- the slot of a branch event -/
def kIdx (k : EvKind) : Nat :=
  match evStack k with
  | f :: _ => f.idx
  | [] => 0

/-- `Cons2.phi`: requests sent + Task visits to come = `N` + the events whose request is out (counted twice) -/
def load2 (c : Cfg) : Nat := c.sent.length + ((evK c).map (fun p => tasksIn (todoOf p.2) + restT p.2)).sum
def inflight2 (c : Cfg) : Nat := ((evK c).filter (fun p => c.sent.contains p.1)).length

/-- `mu` for flat skeletons.  Pending requests count too: the end of a branch may leave the measure as it is (the join holds
the event), so every take has to lower it. -/
def mu2 (c : Cfg) : Nat :=
  (c.evq.map (fun e => evW e + restW e.kind)).sum + 3 * c.timers.length + c.pending.length +
    (c.rpq.filter (fun r => !r.unacked)).length

theorem mu_le_mu2 (c : Cfg) : mu c ≤ mu2 c := by
  rw [mu, mu2, sum_map_add]
  omega

/-- the shape of the event queue (it does not depend on the delivery flags: `evK`) -/
structure Shape (c : Cfg) : Prop where
  /-- a top-level event is alone, and no join is on record -/
  top : ∀ p ∈ evK c, evStack p.2 = [] → (∀ p' ∈ evK c, p'.1 = p.1) ∧ c.joins = []
  /-- branch events belong to one fan-out attempt, one event per branch -/
  same : ∀ p1 ∈ evK c, ∀ p2 ∈ evK c, ∀ f1 f2, evStack p1.2 = [f1] → evStack p2.2 = [f2] →
    f1.jid = f2.jid ∧ f1.branches = f2.branches ∧ f1.rest = f2.rest ∧ (f1.idx = f2.idx → p1.1 = p2.1)
  /-- … and every branch has its event -/
  cover : ∀ p ∈ evK c, ∀ f, evStack p.2 = [f] → ∀ i, i < f.width →
    ∃ p' ∈ evK c, ∃ f', evStack p'.2 = [f'] ∧ f'.idx = i
  jlt : ∀ p ∈ evK c, ∀ f, evStack p.2 = [f] → f.jid < c.nextJ

structure JInv (c : Cfg) : Prop where
  one : ∀ j ∈ c.joins, c.joins = [j]
  alive : ∀ j ∈ c.joins, j.dead = false
  mine : ∀ j ∈ c.joins, ∀ p ∈ evK c, ∀ f, evStack p.2 = [f] → f.jid = j.jid ∧ j.filled.length < f.width
  fnd : ∀ j ∈ c.joins, j.filled.Nodup
  fheld : ∀ j ∈ c.joins, ∀ i ∈ j.filled, ∃ x, (i, x) ∈ j.heldEv
  held : ∀ j ∈ c.joins, ∀ q ∈ j.heldEv,
    q.1 ∈ j.filled ∧ ∃ p ∈ evK c, p.1 = q.2 ∧ kIdx p.2 = q.1 ∧ lastVisit p.2 = true ∧ (isTaskKind p.2 = true → p.1 ∈ c.sent)
  heldsent : ∀ j ∈ c.joins, ∀ q ∈ j.heldEv, q.2 ∈ c.sent → q.2 ∈ j.heldRp
  rpheld : ∀ j ∈ c.joins, ∀ x ∈ j.heldRp, ∃ q ∈ j.heldEv, q.2 = x
  ht : ∀ x ∈ heldE c.joins, x ∉ c.timers ∧ x ∉ c.pending
  hro : ∀ x ∈ heldR c.joins, x ∉ c.orphans
  jne : evK c = [] → c.joins = []
  /-- the records of the attempts are not those the engine keeps after the end of an execution -/
  live : ∀ j ∈ c.joins, j.ended = false

/-- conserved: the terminal notification is out exactly when nothing is left, `N` Task visits in all, no reply without
its event -/
structure Cons2 (N : Nat) (c : Cfg) : Prop where
  psi0 : evK c = [] → c.notes = 1
  psi1 : evK c ≠ [] → c.notes = 0
  phi : load2 c = N + inflight2 c
  fresh : ∀ x ∈ rpC c, ∃ p ∈ evK c, p.1 = x

structure PInv (N : Nat) (c : Cfg) : Prop where
  dur : Dur FlatK c
  vol : VolI c
  shape : Shape c
  join : JInv c
  cons : Cons2 N c

theorem Frame.wf_iff {f : Frame} : f.wf = true ↔
    (f.mc = 0 ∨ f.width ≤ f.mc) ∧ f.branches.allSeq = true ∧ f.rest.flat = true ∧ f.idx < f.width := by
  simp only [Frame.wf, Bool.and_eq_true, Bool.or_eq_true, beq_iff_eq, decide_eq_true_eq, and_assoc]

theorem kIdx_of_stack {k : EvKind} {f : Frame} (h : evStack k = [f]) : kIdx k = f.idx := by
  simp only [kIdx, h]

theorem Shape.congr {c d : Cfg} (h : Shape c) (h2 : c.joins = [] → d.joins = []) (h1 : evK d = evK c := by rfl)
    (h3 : d.nextJ = c.nextJ := by rfl) : Shape d where
  top := h1 ▸ fun p hp hs => ⟨(h.top p hp hs).1, h2 (h.top p hp hs).2⟩
  same := h1 ▸ h.same
  cover := h1 ▸ h.cover
  jlt := h1 ▸ h3 ▸ h.jlt

/-- (`y`: the next visit of the sequence of `x`.)  Every clause by cases on whether an event of `d` is `y` or an old one other
than `x`; `uniq` turns equal ids into equal events. -/
theorem Shape.replace {c d : Cfg} (h : Shape c) (hids : ((evK c).map (·.1)).Nodup) {x y : Nat × EvKind} (hx : x ∈ evK c)
    (hmem : ∀ p, p ∈ evK d ↔ (p ∈ evK c ∧ p ≠ x) ∨ p = y) (hstk : evStack y.2 = evStack x.2)
    (hj : d.joins = c.joins) (hnj : d.nextJ = c.nextJ) : Shape d := by
  have uniq : ∀ p ∈ evK c, ∀ q ∈ evK c, p.1 = q.1 → p = q := fun p hp q hq hpq => eq_of_nodup_map (·.1) hids hp hq hpq
  constructor
  · intro p hp hs
    rcases (hmem p).mp hp with ⟨hpc, hpx⟩ | rfl
    · have ht := h.top p hpc hs
      exact absurd (uniq x hx p hpc (ht.1 x hx)).symm hpx
    · have ht := h.top x hx (hstk ▸ hs)
      refine ⟨?_, hj ▸ ht.2⟩
      intro p' hp'
      rcases (hmem p').mp hp' with ⟨hpc, hpx⟩ | rfl
      · exact absurd (uniq p' hpc x hx (ht.1 p' hpc)) hpx
      · rfl
  · intro p1 hp1 p2 hp2 f1 f2 hf1 hf2
    rcases (hmem p1).mp hp1 with ⟨hp1c, hp1x⟩ | rfl <;> rcases (hmem p2).mp hp2 with ⟨hp2c, hp2x⟩ | rfl
    · exact h.same p1 hp1c p2 hp2c f1 f2 hf1 hf2
    · have := h.same p1 hp1c x hx f1 f2 hf1 (hstk ▸ hf2)
      refine ⟨this.1, this.2.1, this.2.2.1, fun hi => ?_⟩
      exact absurd (uniq p1 hp1c x hx (this.2.2.2 hi)) hp1x
    · have := h.same x hx p2 hp2c f1 f2 (hstk ▸ hf1) hf2
      refine ⟨this.1, this.2.1, this.2.2.1, fun hi => ?_⟩
      exact absurd (uniq x hx p2 hp2c (this.2.2.2 hi)).symm hp2x
    · rw [hf1] at hf2; cases hf2
      exact ⟨rfl, rfl, rfl, fun _ => rfl⟩
  · intro p hp f hf i hi
    have key : ∃ p0 ∈ evK c, evStack p0.2 = [f] := by
      rcases (hmem p).mp hp with ⟨hpc, _⟩ | rfl
      · exact ⟨p, hpc, hf⟩
      · exact ⟨x, hx, hstk ▸ hf⟩
    obtain ⟨p0, hp0, hf0⟩ := key
    obtain ⟨p', hp', f', hf', hi'⟩ := h.cover p0 hp0 f hf0 i hi
    by_cases hpx : p' = x
    · subst hpx
      exact ⟨y, (hmem y).mpr (Or.inr rfl), f', hstk ▸ hf', hi'⟩
    · exact ⟨p', (hmem p').mpr (Or.inl ⟨hp', hpx⟩), f', hf', hi'⟩
  · intro p hp f hf
    rw [hnj]
    rcases (hmem p).mp hp with ⟨hpc, _⟩ | rfl
    · exact h.jlt p hpc f hf
    · exact h.jlt x hx f (hstk ▸ hf)

theorem Cons2.congr {N : Nat} {c d : Cfg} (h : Cons2 N c) (h1 : evK d = evK c := by rfl)
    (h2 : rpC d = rpC c := by rfl) (h3 : d.sent = c.sent := by rfl) (h4 : d.notes = c.notes := by rfl) : Cons2 N d where
  psi0 := h1 ▸ h4 ▸ h.psi0
  psi1 := h1 ▸ h4 ▸ h.psi1
  phi := by simp only [load2, inflight2, h1, h3]; exact h.phi
  fresh := h1 ▸ h2 ▸ h.fresh

theorem flat_of_seq {t : Sk} (h : t.seq = true) : t.flat = true := by
  fun_induction Sk.seq t <;> simp_all [Sk.flat]

theorem flatKind_inv {k : EvKind} (h : flatKind k = true) :
    ∃ t stack start, k = .visit t stack start none ∧
      ((stack = [] ∧ t.flat = true) ∨ (∃ f, stack = [f] ∧ start = false ∧ t.seq = true ∧ f.wf = true)) := by
  revert h
  fun_cases flatKind k
  · exact fun h => ⟨_, _, _, rfl, .inl ⟨rfl, h⟩⟩
  · exact fun h => ⟨_, _, _, rfl, .inr ⟨_, rfl, rfl, Bool.and_eq_true_iff.mp h⟩⟩
  · exact fun h => nomatch h

theorem flatKind_branch {k : EvKind} (hk : flatKind k = true) (hne : evStack k ≠ []) :
    ∃ t f, k = .visit t [f] false none ∧ t.seq = true ∧ f.wf = true := by
  obtain ⟨t, stack, start, rfl, ⟨rfl, -⟩ | ⟨f, rfl, rfl, hs, hw⟩⟩ := flatKind_inv hk
  · exact absurd rfl hne
  · exact ⟨t, f, rfl, hs, hw⟩

theorem flat_cases {t : Sk} {stack : List Frame} {start : Bool} (h : flatKind (.visit t stack start none) = true) :
    t = .done ∨ ∃ rest, FlatK (.visit rest stack false none) ∧
      ((∃ rc, t = .task rc rest) ∨ t = .step rest ∨ t = .wait rest ∨ ∃ mc brs, t = .par mc brs rest ∧ stack = []) := by
  obtain ⟨t', stack', start', hk, hc⟩ := flatKind_inv h
  cases hk
  rcases hc with ⟨rfl, hf⟩ | ⟨f, rfl, rfl, hsq, hwf⟩
  · cases t with
    | done => exact .inl rfl
    | task rc r => exact .inr ⟨r, hf, .inl ⟨rc, rfl⟩⟩
    | step r => exact .inr ⟨r, hf, .inr (.inl rfl)⟩
    | wait r => exact .inr ⟨r, hf, .inr (.inr (.inl rfl))⟩
    | par mc brs r => exact .inr ⟨r, (Bool.and_eq_true_iff.mp hf).2, .inr (.inr (.inr ⟨mc, brs, rfl, rfl⟩))⟩
    | _ => cases hf
  · have hk : ∀ r : Sk, r.seq = true → FlatK (.visit r [f] false none) := fun r hr => Bool.and_eq_true_iff.mpr ⟨hr, hwf⟩
    cases t with
    | done => exact .inl rfl
    | task rc r => exact .inr ⟨r, hk r hsq, .inl ⟨rc, rfl⟩⟩
    | step r => exact .inr ⟨r, hk r hsq, .inr (.inl rfl)⟩
    | wait r => exact .inr ⟨r, hk r hsq, .inr (.inr (.inl rfl))⟩
    | _ => cases hsq

theorem flat_not_opaque {k : EvKind} (h : flatKind k = true) : ∀ s st o, k ≠ .visit .opaque s st o := by
  rintro s st o rfl
  obtain ⟨t, stack, start, e, -⟩ := flatKind_inv h
  cases e
  rcases flat_cases h with h0 | ⟨_, -, ⟨_, h0⟩ | h0 | h0 | ⟨_, _, h0, -⟩⟩ <;> cases h0

theorem flat_next {rest : Sk} {stack : List Frame} (h : FlatK (.visit rest stack false none)) :
    rest = .done ∨ (rest.isVisit = true ∧ FlatK (.visit rest stack false none)) :=
  (flat_cases h).imp_right fun ⟨_, _, hs⟩ => ⟨by rcases hs with ⟨_, rfl⟩ | rfl | rfl | ⟨_, _, rfl, -⟩ <;> rfl, h⟩

theorem task_of_flat {k : EvKind} (hs : flatKind k = true) (ht : isTaskKind k = true) :
    ∃ rc rest stack start, k = .visit (.task rc rest) stack start none ∧ FlatK (.visit rest stack false none) := by
  obtain ⟨t, stack, start, rfl, _⟩ := flatKind_inv hs
  rcases flat_cases hs with rfl | ⟨rest, hr, ⟨rc, rfl⟩ | rfl | rfl | ⟨mc, brs, rfl, _⟩⟩ <;> simp [isTaskKind] at ht
  exact ⟨rc, rest, stack, start, rfl, hr⟩

theorem no_top {c : Cfg} (hs : Shape c) (hids : ((evK c).map (·.1)).Nodup) {x : Nat × EvKind} {f : Frame} (hx : x ∈ evK c)
    (hf : evStack x.2 = [f]) : ∀ p ∈ evK c, evStack p.2 ≠ [] := by
  intro p hp hst
  have := (hs.top p hp hst).1 x hx
  have hxp : x = p := eq_of_nodup_map (·.1) hids hx hp this
  rw [hxp, hst] at hf
  cases hf

/-- beside a branch event (`x`, frame `f`) every event is one of the same fan-out attempt -/
theorem branch_frame {c : Cfg} (hD : Dur FlatK c) (hS : Shape c) {x : Nat × EvKind} {f : Frame} (hx : x ∈ evK c)
    (hf : evStack x.2 = [f]) {p : Nat × EvKind} (hp : p ∈ evK c) :
    ∃ f', evStack p.2 = [f'] ∧ f'.wf = true ∧ f'.rest = f.rest ∧ f'.idx < f.width := by
  obtain ⟨t, f', hk, -, hwf⟩ := flatKind_branch (hD.kinds p hp) (no_top hS hD.ids hx hf p hp)
  have hf' : evStack p.2 = [f'] := by rw [hk]; rfl
  have hs := hS.same p hp x hx f' f hf' hf
  refine ⟨f', hf', hwf, hs.2.2.1, ?_⟩
  rw [show f.width = f'.width by rw [Frame.width, ← hs.2.1]; rfl]
  exact (Frame.wf_iff.mp hwf).2.2.2

theorem slot_inj {c : Cfg} (hD : Dur FlatK c) (hS : Shape c) {p q : Nat × EvKind} (hp : p ∈ evK c) (hq : q ∈ evK c)
    (hne : evStack p.2 ≠ []) (hi : kIdx p.2 = kIdx q.2) : p = q := by
  obtain ⟨t, f, hk, -⟩ := flatKind_branch (hD.kinds p hp) hne
  have hpf : evStack p.2 = [f] := by rw [hk]; rfl
  obtain ⟨f', hqf, -⟩ := branch_frame hD hS hp hpf hq
  rw [kIdx_of_stack hpf, kIdx_of_stack hqf] at hi
  exact eq_of_nodup_map (·.1) hD.ids hp hq ((hS.same p hp q hq f f' hpf hqf).2.2.2 hi)

theorem mem_heldE {js : List Join} {j : Join} {q : Nat × Nat} (hj : j ∈ js) (hq : q ∈ j.heldEv) : q.2 ∈ heldE js := by
  simp only [heldE, List.mem_flatMap]
  exact ⟨j, hj, List.mem_map.mpr ⟨q, hq, rfl⟩⟩

theorem JInv.heldR_heldE {c : Cfg} (h : JInv c) {x : Nat} (hx : x ∈ heldR c.joins) : x ∈ heldE c.joins := by
  obtain ⟨j, hj, hxj⟩ := List.mem_flatMap.mp hx
  obtain ⟨q, hq, rfl⟩ := h.rpheld j hj x hxj
  exact mem_heldE hj hq

theorem JInv.replace {c d : Cfg} (h : JInv c) {x y : Nat × EvKind} (hx : x ∈ evK c)
    (hmem : ∀ p, p ∈ evK d ↔ (p ∈ evK c ∧ p ≠ x) ∨ p = y) (hstk : evStack y.2 = evStack x.2)
    (hj : d.joins = c.joins) (hs : d.sent = c.sent) (hxh : x.1 ∉ heldE c.joins)
    (ht : ∀ z ∈ heldE c.joins, z ∉ d.timers ∧ z ∉ d.pending) (ho : ∀ z ∈ heldR c.joins, z ∉ d.orphans) : JInv d := by
  exact
    { one := hj ▸ h.one
      alive := hj ▸ h.alive
      mine := hj ▸ fun j hjm p hp f hf => by
        rcases (hmem p).mp hp with ⟨hpc, -⟩ | rfl
        · exact h.mine j hjm p hpc f hf
        · exact h.mine j hjm x hx f (hstk ▸ hf)
      fnd := hj ▸ h.fnd
      fheld := hj ▸ h.fheld
      held := hj ▸ fun j hjm q hq => by
        obtain ⟨hq1, p, hp, hp1, hp2, hp3, hp4⟩ := h.held j hjm q hq
        -- the event a join holds is not `x`
        exact ⟨hq1, p, (hmem p).mpr (.inl ⟨hp, fun hpx => hxh (hpx ▸ hp1 ▸ mem_heldE hjm hq)⟩), hp1, hp2, hp3, hs ▸ hp4⟩
      heldsent := hj ▸ hs ▸ h.heldsent
      rpheld := hj ▸ h.rpheld
      ht := hj ▸ ht
      hro := hj ▸ ho
      jne := fun h0 => absurd ((hmem y).mpr (.inr rfl)) (h0 ▸ List.not_mem_nil)
      live := hj ▸ h.live }

/-- `hT`, `hP`, `hO`: what `d` registers was registered in `c` or is not held — all that `ht`, `hro` ask of the registries -/
theorem JInv.regs {c d : Cfg} (h : JInv c) (h1 : evK d = evK c) (h2 : d.joins = c.joins)
    (hs : ∀ x ∈ c.sent, x ∈ d.sent) (hs' : ∀ x ∈ heldE c.joins, x ∈ d.sent → x ∈ c.sent)
    (hT : ∀ x ∈ d.timers, x ∈ c.timers ∨ x ∉ heldE c.joins) (hP : ∀ x ∈ d.pending, x ∈ c.pending ∨ x ∉ heldE c.joins)
    (hO : ∀ x ∈ d.orphans, x ∈ c.orphans ∨ x ∉ heldR c.joins) : JInv d where
  one := h2 ▸ h.one
  alive := h2 ▸ h.alive
  mine := h1 ▸ h2 ▸ h.mine
  fnd := h2 ▸ h.fnd
  fheld := h2 ▸ h.fheld
  held := h1 ▸ h2 ▸ fun j hj q hq =>
    let ⟨a, p, hp, b1, b2, b3, b4⟩ := h.held j hj q hq
    ⟨a, p, hp, b1, b2, b3, fun ht => hs _ (b4 ht)⟩
  heldsent := h2 ▸ fun j hj q hq hd => h.heldsent j hj q hq (hs' _ (mem_heldE hj hq) hd)
  rpheld := h2 ▸ h.rpheld
  ht := h2 ▸ fun x hx => ⟨fun hh => (hT x hh).elim (h.ht x hx).1 (· hx), fun hh => (hP x hh).elim (h.ht x hx).2 (· hx)⟩
  hro := h2 ▸ fun x hx hh => (hO x hh).elim (h.hro x hx) (· hx)
  jne := h1 ▸ h2 ▸ h.jne
  live := h2 ▸ h.live

theorem regs_insertNat {x : Nat} {xs H : List Nat} (hx : x ∉ H) : ∀ y ∈ insertNat x xs, y ∈ xs ∨ y ∉ H :=
  fun _ hy => (mem_insertNat.mp hy).elim (fun e => .inr (e ▸ hx)) .inl

theorem regs_erase {x : Nat} {xs H : List Nat} : ∀ y ∈ xs.erase x, y ∈ xs ∨ y ∉ H :=
  fun _ hy => .inl (List.mem_of_mem_erase hy)

theorem regs_self {xs H : List Nat} : ∀ y ∈ xs, y ∈ xs ∨ y ∉ H := fun _ => .inl

section
variable {c : Cfg} {m : QEv} (hm : m ∈ c.evq) (hu : m.unacked = true) (hnd : (c.evq.map (·.id)).Nodup) (k : EvKind)
include hm hu hnd

theorem evq_next : ∃ l1 l2, c.evq = l1 ++ m :: l2 ∧ (∀ e ∈ l1, e.id ≠ m.id) ∧ (∀ e ∈ l2, e.id ≠ m.id) ∧
    ((c.act (.pubEv k)).act (.ackEv m.id)).evq = l1 ++ l2 ++ [{ id := c.nextId, kind := k }] := by
  obtain ⟨l1, l2, he, h1, h2⟩ := split_of_mem hm hnd
  refine ⟨l1, l2, he, h1, h2, ?_⟩
  have hn : ackP m.id { id := c.nextId, kind := k } = true := by simp [ackP]
  have hq := ack_split h1 h2 (l3 := []) (fun _ h => nomatch h) hu
  rw [List.append_nil, List.append_nil] at hq
  rw [act_ackEv_evq, show (c.act (.pubEv k)).evq = c.evq ++ [{ id := c.nextId, kind := k }] from rfl, List.filter_append, he, hq]
  simp [hn]

theorem mem_evK_next (p : Nat × EvKind) :
    p ∈ evK ((c.act (.pubEv k)).act (.ackEv m.id)) ↔ (p ∈ evK c ∧ p ≠ (m.id, m.kind)) ∨ p = (c.nextId, k) := by
  obtain ⟨l1, l2, he, h1, h2, hq⟩ := evq_next hm hu hnd k
  simp only [evK, he, hq, List.map_append, List.map_cons, List.map_nil, List.mem_append, List.mem_cons, List.mem_map,
    List.not_mem_nil, or_false]
  constructor
  · rintro ((⟨e, he', rfl⟩ | ⟨e, he', rfl⟩) | rfl)
    · exact .inl ⟨.inl ⟨e, he', rfl⟩, fun hh => h1 e he' (congrArg Prod.fst hh)⟩
    · exact .inl ⟨.inr (.inr ⟨e, he', rfl⟩), fun hh => h2 e he' (congrArg Prod.fst hh)⟩
    · exact .inr rfl
  · rintro (⟨h | h | h, hne⟩ | rfl)
    · exact .inl (.inl h)
    · exact absurd h hne
    · exact .inl (.inr h)
    · exact .inr rfl

theorem sum_next (g : QEv → Nat) :
    (((c.act (.pubEv k)).act (.ackEv m.id)).evq.map g).sum + g m = (c.evq.map g).sum + g { id := c.nextId, kind := k } := by
  obtain ⟨l1, l2, he, -, -, hq⟩ := evq_next hm hu hnd k
  simp +arith only [he, hq, List.map_append, List.map_cons, List.map_nil, List.sum_append, List.sum_cons, List.sum_nil]
end

theorem mem_rpC_ackRp {c : Cfg} (hnd : (rpC c).Nodup) {corr : Nat} (hin : corr ∈ uRp c.rpq) {x : Nat}
    (hx : x ∈ rpC (c.act (.ackRp corr))) : x ≠ corr := by
  obtain ⟨r, hr, rfl⟩ := List.mem_map.mp hx
  obtain ⟨r0, hr0, hu0, hc0⟩ := mem_uRp.mp hin
  rw [ackRp_rpq hnd, List.mem_filter] at hr
  intro e
  have : r = r0 := eq_of_nodup_map (·.corr) (show (c.rpq.map (·.corr)).Nodup from hnd) hr.1 hr0 (e.trans hc0.symm)
  simp [this, hu0, hc0] at hr

theorem restT_of_stack {k k' : EvKind} (h : evStack k' = evStack k) : restT k' = restT k := by
  simp [restT, h]

theorem restW_of_stack {k k' : EvKind} (h : evStack k' = evStack k) : restW k' = restW k := by
  simp [restW, h]

theorem load2_eq (c : Cfg) : load2 c = c.sent.length + (c.evq.map (fun e => tasksIn (todoOf e.kind) + restT e.kind)).sum := by
  simp only [load2, evK, List.map_map, Function.comp_def]

theorem inflight2_eq (c : Cfg) : inflight2 c = (c.evq.filter (fun e => c.sent.contains e.id)).length := by
  simp only [inflight2, evK, List.filter_map, List.length_map, Function.comp_def]

theorem Cons2.send {N : Nat} {c d : Cfg} (h : Cons2 N c) (hd : Dur FlatK c) {m : QEv} (hm : m ∈ c.evq)
    (hsn : m.id ∉ c.sent) (h1 : evK d = evK c) (h2 : rpC d = rpC c ++ [m.id]) (h3 : d.sent = c.sent ++ [m.id])
    (h4 : d.notes = c.notes) : Cons2 N d := by
  refine ⟨by rw [h1, h4]; exact h.psi0, by rw [h1, h4]; exact h.psi1, ?_, ?_⟩
  · -- exactly one more event has its request out
    obtain ⟨A1, A2, hA, hA1, hA2⟩ := split_of_nodup_map (·.1) (mem_evK hm) hd.ids
    have hf : ∀ A : List (Nat × EvKind), (∀ p ∈ A, p.1 ≠ (m.id, m.kind).1) →
        A.filter (fun p => (c.sent ++ [m.id]).contains p.1) = A.filter (fun p => c.sent.contains p.1) :=
      fun A hA => List.filter_congr fun p hp => by simp [show p.1 ≠ m.id from hA p hp]
    have hself : (c.sent ++ [m.id]).contains m.id = true := by simp
    have hnsb : c.sent.contains m.id = false := by simpa using hsn
    have := h.phi
    simp +arith only [load2, inflight2, h1, h3, hA, List.filter_append, List.filter_cons, hf A1 hA1, hf A2 hA2, hself, hnsb,
      List.length_append, List.length_cons, List.length_nil, Bool.false_eq_true, if_true, if_false] at this ⊢
    exact this
  · rw [h1, h2]
    intro x hx
    rcases List.mem_append.mp hx with hx | hx
    · exact h.fresh x hx
    · cases List.mem_singleton.mp hx
      exact ⟨_, mem_evK hm, rfl⟩

theorem Cons2.next {N : Nat} {c : Cfg} (h : Cons2 N c) (hnd : (c.evq.map (·.id)).Nodup) (hnx : c.nextId ∉ c.sent)
    {m : QEv} (hm : m ∈ c.evq) (hu : m.unacked = true)
    {k : EvKind} (hstk : evStack k = evStack m.kind)
    (htk : tasksIn (todoOf m.kind) = tasksIn (todoOf k) + if m.id ∈ c.sent then 1 else 0) (hfr : ∀ x ∈ rpC c, x ≠ m.id) :
    Cons2 N ((c.act (.pubEv k)).act (.ackEv m.id)) := by
  have hmem := mem_evK_next hm hu hnd k
  refine ⟨fun h0 => absurd ((hmem _).mpr (.inr rfl)) (h0 ▸ List.not_mem_nil), fun _ => h.psi1 (List.ne_nil_of_mem (mem_evK hm)), ?_,
    ?_⟩
  · have h1 := sum_next hm hu hnd k (fun e => tasksIn (todoOf e.kind) + restT e.kind)
    have h2 := sum_next hm hu hnd k (fun e => if c.sent.contains e.id then 1 else 0)
    simp only [sum_indicator _ _ (fun e : QEv => c.sent.contains e.id) (fun _ _ => rfl)] at h2
    have hs : ((c.act (.pubEv k)).act (.ackEv m.id)).sent = c.sent := rfl
    have := h.phi
    simp only [load2_eq, inflight2_eq, restT_of_stack hstk, hs, List.contains_iff_mem, if_neg hnx] at h1 h2 this ⊢
    omega
  · intro x hx
    obtain ⟨p, hp, hpx⟩ := h.fresh x hx
    exact ⟨p, (hmem p).mpr (.inl ⟨hp, fun e => hfr x hx (hpx ▸ e ▸ rfl)⟩), hpx⟩

theorem Cons2.ackRp {N : Nat} {c : Cfg} (h : Cons2 N c) (corr : Nat) : Cons2 N (c.act (.ackRp corr)) :=
  ⟨h.psi0, h.psi1, h.phi, fun x hx => h.fresh x (((removeFirst_sublist _ _).map _).subset hx)⟩

theorem mu2_ackedRpq (c : Cfg) (rp : Option Nat) : mu2 { c with rpq := ackedRpq rp c.rpq } ≤ mu2 c :=
  Nat.add_le_add_left (ready_ackedRpq_le rp c.rpq) _

theorem mu2_next {c : Cfg} {m : QEv} (hm : m ∈ c.evq) (hu : m.unacked = true) (hnd : (c.evq.map (·.id)).Nodup)
    (k : EvKind) :
    mu2 ((c.act (.pubEv k)).act (.ackEv m.id)) + (8 * visits (todoOf m.kind) + 1 + restW m.kind) =
      mu2 c + (8 * visits (todoOf k) + 6 + restW k) := by
  have := sum_next hm hu hnd k (fun e => evW e + restW e.kind)
  have e : mu2 ((c.act (.pubEv k)).act (.ackEv m.id)) =
      (((c.act (.pubEv k)).act (.ackEv m.id)).evq.map (fun e => evW e + restW e.kind)).sum + 3 * c.timers.length +
        c.pending.length + (c.rpq.filter (fun r => !r.unacked)).length := rfl
  rw [e]
  simp +arith only [mu2, evW, hu, if_true, Bool.false_eq_true, if_false] at this ⊢
  exact this

structure Hand (N : Nat) (c : Cfg) (hev hrp : Option Nat) : Prop where
  dur : Dur FlatK c
  vol : VolH c hev hrp
  shape : Shape c
  join : JInv c
  cons : Cons2 N c

theorem PInv.hand {N : Nat} {c : Cfg} (h : PInv N c) : Hand N c none none := ⟨h.dur, h.vol.toH, h.shape, h.join, h.cons⟩

theorem Hand.pinv {N : Nat} {c : Cfg} (h : Hand N c none none) : PInv N c := ⟨h.dur, h.vol.toI, h.shape, h.join, h.cons⟩

/-- `d` differs from `c` in delivery flags and registries (all parts but `VolH` see the queues through `evK`, `rpC`) -/
theorem Hand.regs {N : Nat} {c d : Cfg} {a b a' b' : Option Nat} (h : Hand N c a b) (hv : VolH d a' b') (h1 : evK d = evK c)
    (h2 : rpC d = rpC c) (hT : ∀ x ∈ d.timers, x ∈ c.timers ∨ x ∉ heldE c.joins)
    (hP : ∀ x ∈ d.pending, x ∈ c.pending ∨ x ∉ heldE c.joins) (hO : ∀ x ∈ d.orphans, x ∈ c.orphans ∨ x ∉ heldR c.joins)
    (h3 : d.sent = c.sent := by rfl) (h4 : d.nextId = c.nextId := by rfl) (h5 : d.notes = c.notes := by rfl)
    (h6 : d.diverged = c.diverged := by rfl) (h7 : d.joins = c.joins := by rfl) (h8 : d.nextJ = c.nextJ := by rfl)
    (h9 : d.failed = c.failed := by rfl) (h10 : d.deadJ = c.deadJ := by rfl) : Hand N d a' b' :=
  ⟨h.dur.congr h1 h2 h3 h4 h5 h6 h9 h10, hv, h.shape.congr (fun e => h7 ▸ e) h1 h8,
    h.join.regs h1 h7 (fun _ hx => h3 ▸ hx) (fun _ _ hx => h3 ▸ hx) hT hP hO, h.cons.congr h1 h2 h3 h5⟩

theorem JInv.nil {c : Cfg} (hJ : c.joins = []) : JInv c :=
  have v {P : Join → Prop} : ∀ j ∈ c.joins, P j := fun _ hj => (not_mem_of_eq_nil hJ hj).elim
  ⟨v, v, v, v, v, v, v, v, fun _ h => (not_mem_of_eq_nil (show heldE c.joins = [] from hJ ▸ rfl) h).elim,
    fun _ h => (not_mem_of_eq_nil (show heldR c.joins = [] from hJ ▸ rfl) h).elim, fun _ => hJ, v⟩

/-- the state at the start and after a completed join -/
theorem PInv.fresh {N : Nat} {c : Cfg} {e : QEv} (hk : flatKind e.kind = true) (hid : e.id < c.nextId)
    (hsl : ∀ x ∈ c.sent, x < c.nextId) (hsn : c.sent.Nodup) (hns : e.id ∉ c.sent)
    (hn : c.notes = 0) (hdiv : c.diverged = false) (hf : c.failed = 0) (hd : c.deadJ = [])
    (hN : c.sent.length + tasksIn (todoOf e.kind) = N)
    (hev : c.evq = [e] := by rfl) (hu : e.unacked = false := by rfl) (hst : evStack e.kind = [] := by rfl)
    (hrq : c.rpq = [] := by rfl) (hT : c.timers = [] := by rfl) (hP : c.pending = [] := by rfl) (hO : c.orphans = [] := by rfl)
    (hJ : c.joins = [] := by rfl) : PInv N c := by
  have hevk : evK c = [(e.id, e.kind)] := by simp [evK, hev]
  refine ⟨?_, ?_, ?_, ?_, ?_⟩
  · exact
      { kinds := by simpa [hevk] using hk
        ids := by simp [hevk]
        idlt := by simpa [hevk] using hid
        sentlt := hsl
        sentnd := hsn
        corrnd := by simp [rpC, hrq]
        corrsent := by simp [rpC, hrq]
        reply := by simp [hevk, hns]
        alive := .inl (by simp [hevk])
        nodiv := hdiv
        nofail := hf
        nodead := hd }
  · exact VolI.nil (by simp [uEv, hev, hu]) (by simp [uRp, hrq]) hT hP hO (hJ ▸ rfl) (hJ ▸ rfl)
  · constructor <;> simp [hevk, hst, hJ]
  · exact JInv.nil hJ
  · constructor <;> simp [hevk, rpC, hrq, hn, load2, inflight2, restT, hst, hns]
    omega

theorem PInv.ended {N : Nat} {c : Cfg} (hsl : ∀ x ∈ c.sent, x < c.nextId) (hsn : c.sent.Nodup)
    (hn : c.notes = 1) (hdiv : c.diverged = false) (hf : c.failed = 0) (hd : c.deadJ = []) (hN : c.sent.length = N)
    (hev : c.evq = [] := by rfl) (hrq : c.rpq = [] := by rfl) (hT : c.timers = [] := by rfl) (hP : c.pending = [] := by rfl)
    (hO : c.orphans = [] := by rfl) (hJ : c.joins = [] := by rfl) : PInv N c := by
  have hevk : evK c = [] := by simp [evK, hev]
  refine ⟨?_, ?_, ?_, ?_, ?_⟩
  · exact
      { kinds := by simp [hevk]
        ids := by simp [hevk]
        idlt := by simp [hevk]
        sentlt := hsl
        sentnd := hsn
        corrnd := by simp [rpC, hrq]
        corrsent := by simp [rpC, hrq]
        reply := by simp [hevk]
        alive := .inr (by omega)
        nodiv := hdiv
        nofail := hf
        nodead := hd }
  · exact VolI.nil (by simp [uEv, hev]) (by simp [uRp, hrq]) hT hP hO (hJ ▸ rfl) (hJ ▸ rfl)
  · constructor <;> exact hevk ▸ List.forall_mem_nil _
  · exact JInv.nil hJ
  · constructor <;> simp [hevk, rpC, hrq, hn, load2, inflight2, hN]

theorem pinv_init (sk : Sk) (h : sk.flat = true) : PInv (tasksIn sk) (init sk) :=
  PInv.fresh (e := { id := 0, kind := .visit sk [] true none }) h Nat.zero_lt_one (fun _ hx => nomatch hx) List.nodup_nil
    (fun hx => nomatch hx) rfl rfl rfl rfl (Nat.zero_add _)

theorem top_event_alone {N : Nat} {c : Cfg} {rp : Option Nat} {m : QEv} (hV : VolH c (some m.id) rp) (hS : Shape c) (hC : Cons2 N c)
    (hnd : (c.evq.map (·.id)).Nodup) (hm : m ∈ c.evq) (hstk : evStack m.kind = []) :
    c.evq = [m] ∧ c.joins = [] ∧ c.timers = [] ∧ c.pending = [] ∧ ((∀ x ∈ rpC c, x ≠ m.id) → c.rpq = [] ∧ c.orphans = []) := by
  obtain ⟨l1, l2, he, h1, h2⟩ := split_of_mem hm hnd
  have ht := hS.top _ (mem_evK hm) hstk
  have hl1 : l1 = [] := List.eq_nil_iff_forall_not_mem.mpr fun e he' =>
    h1 e he' (ht.1 _ (mem_evK (he ▸ List.mem_append_left _ he')))
  have hl2 : l2 = [] := List.eq_nil_iff_forall_not_mem.mpr fun e he' =>
    h2 e he' (ht.1 _ (mem_evK (he ▸ List.mem_append_right _ (List.mem_cons_of_mem _ he'))))
  have hev' : c.evq = [m] := by simpa [hl1, hl2] using he
  have hu : ∀ x ∈ uEv c.evq, x = m.id := fun x hx => by
    obtain ⟨e, he', _, rfl⟩ := mem_uEv.mp hx
    rw [hev'] at he'
    rw [List.mem_singleton.mp he']
  have hfree := hV.free_ev m.id rfl
  refine ⟨hev', ht.2, List.eq_nil_iff_forall_not_mem.mpr fun t h => hfree.1 (hu t (hV.t_sub t h) ▸ h),
    List.eq_nil_iff_forall_not_mem.mpr fun p h => hfree.2.1 (hu p (hV.p_sub p h).1 ▸ h), fun hnr => ?_⟩
  -- a reply answers an event of the queue, and there is only the one
  have hrq : c.rpq = [] := List.map_eq_nil_iff.mp <| List.eq_nil_iff_forall_not_mem.mpr fun x hx => by
    obtain ⟨p, hp, hpx⟩ := hC.fresh x hx
    rw [evK, hev', List.map_singleton, List.mem_singleton] at hp
    subst hp
    exact hnr x hx hpx.symm
  refine ⟨hrq, List.eq_nil_iff_forall_not_mem.mpr fun o ho => ?_⟩
  have := hV.o_sub o ho
  rw [hrq] at this
  cases this

theorem PInv.crash {N : Nat} {c : Cfg} (h : PInv N c) : PInv N c.crash :=
  ⟨h.dur.crash, VolI.crash c, h.shape.congr (fun _ => rfl) (evK_crash c), JInv.nil rfl,
    h.cons.congr (evK_crash c) (rpC_crash c)⟩

end Asl.Crash
