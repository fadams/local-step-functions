/- For C19: what an address makes a Consumer or a Producer send, stated for any clean name; the engine's
   addresses are instances. -/
import AslModel.Amqp
import Proofs.Lemmas.Obj
namespace Asl.Amqp

theorem splitOn_not_mem {sep : Char} {s : Str} (h : sep ∉ s) : splitOn sep s = [s] := by
  fun_induction splitOn sep s <;> simp_all

theorem splitOn_append {sep : Char} {a b : Str} (h : sep ∉ a) :
    splitOn sep (a ++ sep :: b) = a :: splitOn sep b := by
  induction a with
  | nil => simp [splitOn]
  | cons c cs ih => simp_all [splitOn, Ne.symm]

/-- a name the address grammar leaves alone: none of its separators, no padding, not empty -/
structure Clean (n : Str) : Prop where
  noSemi : ';' ∉ n
  noSlash : '/' ∉ n
  noBrace : n.head? ≠ some '{'
  stripped : strip n = n
  nonempty : n ≠ []

theorem splitAddress_clean {n tl : Str} (hn : Clean n) (ht : ';' ∉ tl) :
    splitAddress (n ++ ';' :: tl) = ⟨n, [], tl⟩ := by
  have hb : ¬ (2 ≤ n.length ∧ n.head? = some '{') := fun h => hn.noBrace h.2
  simp only [splitAddress, splitOn_append hn.noSemi, splitOn_not_mem ht, splitOn_not_mem hn.noSlash,
    hn.stripped, if_neg hb]

theorem parseAddress_clean {n tl : Str} {o : Json} (hn : Clean n) (ht : ';' ∉ tl)
    (hp : parseJson tl = some o) : parseAddress (n ++ ';' :: tl) = destOf n [] o := by
  simp only [parseAddress, splitAddress_clean hn ht, hp]

theorem parseAddress_name {n : Str} (hn : Clean n) :
    parseAddress n = .ok ⟨n, [], declare0, linkDeclare0, linkSubscribe0, []⟩ := by
  have hb : ¬ (2 ≤ n.length ∧ n.head? = some '{') := fun h => hn.noBrace h.2
  have hs : splitAddress n = ⟨n, [], ['{', '}']⟩ := by
    simp only [splitAddress, splitOn_not_mem hn.noSemi, splitOn_not_mem hn.noSlash, hn.stripped, if_neg hb]
  have hp : parseJson ['{', '}'] = some (.obj []) := by decide +kernel
  simp only [parseAddress, hs, hp]
  rfl

def sEngine : Str := ['a', 's', 'l', '_', 'w', 'o', 'r', 'k', 'f', 'l', 'o', 'w', '_', 'e', 'n', 'g', 'i', 'n', 'e']

def sTopic : Str := ['t', 'o', 'p', 'i', 'c']

def sXPriority : Str := ['x', '-', 'p', 'r', 'i', 'o', 'r', 'i', 't', 'y']

abbrev kExchange : Str := ['e', 'x', 'c', 'h', 'a', 'n', 'g', 'e']
abbrev kDurable : Str := ['d', 'u', 'r', 'a', 'b', 'l', 'e']
abbrev kArguments : Str := ['a', 'r', 'g', 'u', 'm', 'e', 'n', 't', 's']
abbrev kExclusive : Str := ['e', 'x', 'c', 'l', 'u', 's', 'i', 'v', 'e']

/-! the option maps of the engine's three consumer addresses, as `json.loads` gives them -/

def nodeOpts (qt : QType) : Str × Json :=
  (['n', 'o', 'd', 'e'], .obj ((kDurable, .bool true) ::
    match qt with
    | .classic => []
    | .quorum => [(['x', '-', 'd', 'e', 'c', 'l', 'a', 'r', 'e'],
        .obj [(kArguments, queueArgs .quorum)])]))

def linkOpts (subscribe : Dict) : Str × Json :=
  (['l', 'i', 'n', 'k'], .obj [(['x', '-', 's', 'u', 'b', 's', 'c', 'r', 'i', 'b', 'e'], .obj subscribe)])

def optsShared (qt : QType) : Json := .obj [nodeOpts qt]

def optsInstance (qt : QType) : Json :=
  .obj [nodeOpts qt, linkOpts [(kExclusive, .bool true)]]

def optsReply (qt : QType) : Json :=
  .obj [nodeOpts qt, linkOpts [(kArguments, .obj [(sXPriority, .num 10)])]]

theorem parse_sharedTail (qt : QType) : parseJson (sharedTail qt) = some (optsShared qt) := by
  cases qt <;> decide +kernel
theorem parse_instanceTail (qt : QType) : parseJson (instanceTail qt) = some (optsInstance qt) := by
  cases qt <;> decide +kernel
theorem parse_replyTail (qt : QType) : parseJson (replyTail qt) = some (optsReply qt) := by
  cases qt <;> decide +kernel
theorem semi_sharedTail (qt : QType) : ';' ∉ sharedTail qt := by cases qt <;> decide +kernel
theorem semi_instanceTail (qt : QType) : ';' ∉ instanceTail qt := by cases qt <;> decide +kernel
theorem semi_replyTail (qt : QType) : ';' ∉ replyTail qt := by cases qt <;> decide +kernel

theorem consumerOf_queue (env : Env) (cap : Option Nat) (d : Dest) (hn : d.name ≠ [])
    (hx : d.name ∉ env.exchanges) (hs : d.subject = []) (hb : d.bindings = [])
    (he : (dget d.declare kExchange).truthy = false) :
    consumerOf env cap (.ok d) =
      .ok ([.qos defaultCapacity, .probe d.name,
            .queueDeclare (.str d.name) (dget d.declare ['p', 'a', 's', 's', 'i', 'v', 'e'])
              (dget d.declare kDurable)
              (dget d.declare kExclusive)
              (dget d.declare ['a', 'u', 't', 'o', '-', 'd', 'e', 'l', 'e', 't', 'e'])
              (dget d.declare kArguments)] ++
          capacityOp cap ++ [listenOp d d.name], d.name) := by
  simp [consumerOf, consumerOpen, probeOp, exchangeOp, bindOps, strOf, hn, hx, hs, hb, he, bind,
    Except.bind, pure, Except.pure]

theorem producerOpen_ops (env : Env) (d : Dest) : (producerOpen env d).1 = probeOp d ++ exchangeOp d.declare :=
  rfl

theorem producerOpen_default (env : Env) (d : Dest) (hn : d.name ≠ []) (hx : d.name ∉ env.exchanges)
    (he : dget d.declare kExchange ≠ .str d.name) :
    producerOpen env d = (probeOp d ++ exchangeOp d.declare, ⟨[], d.name⟩) := by
  simp [producerOpen, hn, hx, he]

theorem producerOpen_exchange (env : Env) (d : Dest)
    (h : d.name = [] ∨ dget d.declare kExchange = .str d.name) :
    producerOpen env d = (probeOp d ++ exchangeOp d.declare, ⟨d.name, d.subject⟩) := by
  rcases h with h | h <;> simp [producerOpen, h]

theorem producerOps_ok {addr : Str} {d : Dest} (t : Transport) (env : Env) (h : parseAddress addr = .ok d) :
    producerOps t env addr = .ok (producerOpen env d) := by
  rw [producerOps, h]

/-- what the engine's three consumer addresses parse to; they differ in the subscription part only -/
def durableQueue (n : Str) (qt : QType) (subscribe : Dict) : Dest :=
  ⟨n, [],
   objSet (objSet declare0 kDurable (.bool true))
     kArguments (queueArgs qt),
   linkDeclare0, subscribe, []⟩

/- `destOf` tests the name only for emptiness, so on `c :: cs` it evaluates. -/
theorem destOf_shared {n : Str} (qt : QType) (hn : n ≠ []) :
    destOf n [] (optsShared qt) = .ok (durableQueue n qt linkSubscribe0) := by
  cases n with
  | nil => exact absurd rfl hn
  | cons c cs => cases qt <;> rfl

theorem destOf_link {n : Str} (qt : QType) (sub : Str × Json) (subs : Dict) (hn : n ≠ []) :
    destOf n [] (.obj [nodeOpts qt, linkOpts (sub :: subs)]) =
      .ok (durableQueue n qt (upd linkSubscribe0 (sub :: subs))) := by
  cases n with
  | nil => exact absurd rfl hn
  | cons c cs => cases qt <;> rfl

/-- what a Consumer on a plain durable node sends, in order: the constructor's prefetch, the passive probe, the
queue declaration, the prefetch the engine then sets (if it does), the subscription -/
def plainQueue (n : Str) (qt : QType) (cap : Option Nat) (exclusive arguments : Json) : List Op :=
  [.qos defaultCapacity, .probe n,
   .queueDeclare (.str n) (.bool false) (.bool true) (.bool false) (.bool false) (queueArgs qt)] ++
  capacityOp cap ++ [.consume (.str n) (.bool false) exclusive arguments]

def plainEntities (n : Str) (qt : QType) (exclusive arguments : Json) : List Entity :=
  [.queue (.str n) (.bool true) (.bool false) (.bool false) (queueArgs qt),
   .subscription (.str n) (.bool false) exclusive arguments]

theorem created_plainQueue (n : Str) (qt : QType) (cap : Option Nat) (x g : Json) :
    created (plainQueue n qt cap x g) = plainEntities n qt x g := by
  cases cap <;> rfl

/-- the engine's three consumer addresses are the instances with `sharedTail`, `instanceTail`, `replyTail` for `tl` -/
theorem consumerOps_durable {n tl : Str} {o : Json} {qt : QType} {ls : Dict} (t : Transport) (env : Env)
    (cap : Option Nat) (hn : Clean n) (hx : n ∉ env.exchanges) (ht : ';' ∉ tl) (hp : parseJson tl = some o)
    (hd : destOf n [] o = .ok (durableQueue n qt ls)) :
    consumerOps t env (n ++ ';' :: tl) cap =
      .ok (plainQueue n qt cap (dget ls kExclusive)
        (dget ls kArguments), n) := by
  rw [consumerOps, parseAddress_clean hn ht hp, hd,
    consumerOf_queue env cap _ hn.nonempty hx rfl rfl rfl]
  -- read off the `declare` map of `durableQueue`
  rfl

def topicDest : Dest :=
  ⟨sEngine, [],
   objSet (objSet (objSet declare0 kExchange (.str sEngine))
     ['e', 'x', 'c', 'h', 'a', 'n', 'g', 'e', '-', 't', 'y', 'p', 'e'] (.str sTopic))
     kDurable (.bool true),
   linkDeclare0, linkSubscribe0, []⟩

section
attribute [local instance] exceptDecEq

theorem parseAddress_topicAddr : parseAddress topicAddr = .ok topicDest := by decide +kernel

theorem parseAddress_nil : parseAddress [] = .ok ⟨[], [], declare0, linkDeclare0, linkSubscribe0, []⟩ := by
  decide +kernel

end

theorem producerOps_name {n : Str} (t : Transport) (env : Env) (hn : Clean n) (hx : n ∉ env.exchanges) :
    producerOps t env n = .ok ([.probe n], ⟨[], n⟩) := by
  have he : dget declare0 kExchange ≠ .str n := by
    intro h; cases h; exact hn.nonempty rfl
  rw [producerOps_ok t env (parseAddress_name hn),
    producerOpen_default env ⟨n, [], declare0, linkDeclare0, linkSubscribe0, []⟩ hn.nonempty hx he, probeOp,
    if_pos hn.nonempty]
  -- `declare0` names no exchange
  rfl

theorem created_append (a b : List Op) : created (a ++ b) = created a ++ created b := by
  induction a with
  | nil => rfl
  | cons x xs ih => simp [created, ih]

theorem created_probeOp (d : Dest) : created (probeOp d) = [] := by
  unfold probeOp
  split <;> rfl

theorem truthy_str {q : Str} (hq : q ≠ []) : (Json.str q).truthy = true := by
  simp [Json.truthy, hq]

theorem setSubject_str (m : Msg) {q : Str} (hq : q ≠ []) :
    m.setSubject (.str q) = { m with properties := objSet m.properties subjectKey (.str q) } := by
  simp [Msg.setSubject, truthy_str hq]

theorem subject_setSubject (m : Msg) {q : Str} (hq : q ≠ []) : (m.setSubject (.str q)).subject = .str q := by
  simp [setSubject_str m hq, Msg.subject]

theorem clampInt_digits (v : Int) : ∃ n : Nat, clampInt v = natDigits n := by
  unfold clampInt
  split
  · exact ⟨0, rfl⟩
  · exact ⟨v.toNat, rfl⟩

theorem sendSeq_fst (t : Transport) (tgt : Target) (ms : List Msg) (order : List Nat)
    (h : ∀ j ∈ order, j < ms.length) : (sendSeq t tgt ms order).map Prod.fst = order := by
  induction order with
  | nil => rfl
  | cons j js ih =>
    have hj := h j List.mem_cons_self
    simpa [sendSeq, List.getElem?_eq_getElem hj] using ih (fun k hk => h k (List.mem_cons_of_mem _ hk))

end Asl.Amqp
