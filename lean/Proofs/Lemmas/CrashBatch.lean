/-
The end of a branch and the arithmetic of batches (Map states with a MaxConcurrency), quirk-free protocol.  What `advance` does
when a branch ends carries the proof for flat skeletons.  The rest serves CrashBatchInv.lean, for batches below the item
count: the liveness core, and the accounting of the slots that are not launched yet (`unl`, `bat`).
-/
import Proofs.Lemmas.CrashHandlers
namespace Asl.Crash

/-- the join once the branch of event `ev` (slot `f.idx`) has ended -/
def joinAfter (js : List Join) (f : Frame) (ev : Nat) (rp : Option Nat) : Join :=
  { getJoin js f.jid with
    filled := insertNat f.idx (getJoin js f.jid).filled
    heldEv := insertHeld f.idx ev (getJoin js f.jid).heldEv
    heldRp := match rp with
      | some r => insertNat r (getJoin js f.jid).heldRp
      | none => (getJoin js f.jid).heldRp }

def releaseOf (j : Join) : List Act := (j.heldEv.map (fun p => Act.ackEv p.2)) ++ (j.heldRp.map .ackRp)

def notDead (c : Cfg) (v : Vol) : Prop := (∀ j ∈ v.joins, j.dead = false) ∧ c.deadJ = []

theorem deadJid_false {c : Cfg} {v : Vol} (h : notDead c v) (j : Nat) : deadJid Quirks.none c v j = false := by
  simp only [deadJid, h.2, List.contains_nil, Bool.and_false, Bool.or_false, List.any_eq_false, Bool.and_eq_true, beq_iff_eq,
    not_and, Bool.not_eq_true]
  intro x hx _
  exact h.1 x hx

theorem batchOf_all {mc w : Nat} (hmc : mc = 0 ∨ w ≤ mc) : batchOf mc w 0 = List.range w := by
  rw [batchOf, List.filter_eq_self]
  intro i hi
  have := List.mem_range.mp hi
  rcases hmc with h | h
  · simp [h]
  · simp [Nat.lt_of_lt_of_le this h]

/-- a batch that is the whole fan-out is not complete before the join is -/
theorem batch_not_done {mc w idx : Nat} {filled : List Nat} (hmc : w ≤ mc) (hidx : idx < w) (hlt : filled.length < w) :
    ¬ ∀ x, x ∈ batchOf mc w (idx / mc * mc) → x ∈ filled := by
  intro hall
  rw [Nat.div_eq_of_lt (Nat.lt_of_lt_of_le hidx hmc), Nat.zero_mul, batchOf_all (.inr hmc)] at hall
  exact Nat.lt_irrefl _ (Nat.lt_of_lt_of_le hlt (length_ge_of_full w filled fun i hi => hall i (List.mem_range.mpr hi)))

theorem batch_iff {mc : Nat} (hmc : 0 < mc) (idx i : Nat) :
    (idx / mc * mc ≤ i ∧ i < idx / mc * mc + mc) ↔ i / mc = idx / mc := by
  rw [Nat.div_eq_iff hmc, Nat.le_sub_one_iff_lt (Nat.add_pos_right _ hmc)]

theorem mem_batchOf {mc : Nat} (hmc : 0 < mc) (w k i : Nat) :
    i ∈ batchOf mc w (k * mc) ↔ i < w ∧ i / mc = k := by
  have := batch_iff hmc (k * mc) i
  rw [Nat.mul_div_cancel k hmc] at this
  simp only [batchOf, List.mem_filter, List.mem_range, Bool.and_eq_true, decide_eq_true_eq, Bool.or_eq_true, beq_iff_eq,
    Nat.ne_of_gt hmc, false_or, this]

theorem mult_le {mc k s : Nat} (hmc : 0 < mc) (hs : s % mc = 0) (hlt : s < k * mc + mc) : s ≤ k * mc := by
  have h1 : s / mc < k + 1 := (Nat.div_lt_iff_lt_mul hmc).mpr (by rw [Nat.add_mul, Nat.one_mul]; exact hlt)
  rw [← Nat.div_mul_cancel (Nat.dvd_of_mod_eq_zero hs)]
  exact Nat.mul_le_mul_right mc (Nat.le_of_lt_succ h1)

theorem batch_ge {mc k i : Nat} (hmc : 0 < mc) (hi : k * mc + mc ≤ i) : k + 1 ≤ i / mc ∧ k * mc + mc ≤ i / mc * mc := by
  have h1 : k + 1 ≤ i / mc := (Nat.le_div_iff_mul_le hmc).mpr (by rw [Nat.add_mul, Nat.one_mul]; exact hi)
  refine ⟨h1, ?_⟩
  have := Nat.mul_le_mul_right mc h1
  rw [Nat.add_mul, Nat.one_mul] at this; exact this

theorem next_le {mc i s : Nat} (hmc : 0 < mc) (hs : s % mc = 0) (hi : i < s) : i / mc * mc + mc ≤ s := by
  have h2 : s / mc * mc = s := Nat.div_mul_cancel (Nat.dvd_of_mod_eq_zero hs)
  have h1 : i / mc < s / mc := (Nat.div_lt_iff_lt_mul hmc).mpr (by rw [h2]; exact hi)
  have := Nat.mul_le_mul_right mc (Nat.succ_le_of_lt h1)
  rw [Nat.succ_mul, h2] at this; exact this

def batchFull (f : Frame) (filled : List Nat) : Prop :=
  ∀ i, i < f.branches.toList.length → i / f.mc = f.idx / f.mc → i ∈ filled

def nextStart (f : Frame) : Nat := f.idx / f.mc * f.mc + f.mc

theorem nextStart_eq (f : Frame) : nextStart f = (f.idx / f.mc + 1) * f.mc := by
  rw [nextStart, Nat.succ_mul]

theorem nextStart_mod {f : Frame} : nextStart f % f.mc = 0 := by
  simp [nextStart, Nat.add_mod_right, Nat.mul_mod_left]

theorem nextStart_pos {f : Frame} (hmc : 0 < f.mc) : 0 < nextStart f :=
  Nat.add_pos_right _ hmc

theorem batchFull_iff {f : Frame} (hmc : 0 < f.mc) (filled : List Nat) :
    (∀ x, x ∈ batchOf f.mc f.branches.toList.length (f.idx / f.mc * f.mc) → x ∈ filled) ↔ batchFull f filled := by
  simp only [batchFull, mem_batchOf hmc]
  exact ⟨fun h i hi hb => h i ⟨hi, hb⟩, fun h i hi => h i hi.1 hi.2⟩

/-- does the end of the branch of slot `f.idx` complete a batch that has a successor not on record? -/
def reenters (c : Cfg) (f : Frame) (filled : List Nat) : Bool :=
  (f.mc != 0 && (batchOf f.mc f.branches.toList.length (f.idx / f.mc * f.mc)).all (fun i => filled.contains i)) &&
    (decide (nextStart f < f.branches.toList.length) && !c.batches.contains (f.jid, nextStart f))

theorem reenters_iff {c : Cfg} {f : Frame} (hmc : 0 < f.mc) (filled : List Nat) :
    reenters c f filled = true ↔
      batchFull f filled ∧ nextStart f < f.branches.toList.length ∧ (f.jid, nextStart f) ∉ c.batches := by
  simp [reenters, ← batchFull_iff hmc, Nat.ne_of_gt hmc]

/-- the arm `.done, f :: outer` of `advance`, the attempt not over, the join not complete -/
theorem advance_hold_eq (c : Cfg) (fuel ev : Nat) (f : Frame) (rp : Option Nat) (v : Vol) (hnd : notDead c v)
    (hlt : (joinAfter v.joins f ev rp).filled.length < f.branches.toList.length) :
    advance Quirks.none c (fuel + 1) ev .done [f] none rp v =
      if reenters c f (joinAfter v.joins f ev rp).filled then
        ([.pubEv (.reenter f (nextStart f) [] none)], { v with joins := setJoin v.joins (joinAfter v.joins f ev rp) })
      else ([], { v with joins := setJoin v.joins (joinAfter v.joins f ev rp) }) := by
  have hd : deadJid ({} : Quirks) c v f.jid = false := deadJid_false hnd f.jid
  have hnot : ¬ (joinAfter v.joins f ev rp).filled.length ≥ f.branches.toList.length := Nat.not_le_of_gt hlt
  unfold advance
  simp only [joinAfter] at hnot
  simp only [Quirks.none, hd, hnot, Bool.false_eq_true, if_false, Bool.false_or, List.append_nil]
  rfl

theorem advance_hold (c : Cfg) (fuel ev : Nat) (f : Frame) (rp : Option Nat) (v : Vol) (hnd : notDead c v)
    (hmc : f.mc = 0 ∨ f.branches.toList.length ≤ f.mc) (hidx : f.idx < f.branches.toList.length)
    (hlt : (joinAfter v.joins f ev rp).filled.length < f.branches.toList.length) :
    advance Quirks.none c (fuel + 1) ev .done [f] none rp v =
      ([], { v with joins := setJoin v.joins (joinAfter v.joins f ev rp) }) := by
  rw [advance_hold_eq c fuel ev f rp v hnd hlt, if_neg]
  rcases hmc with h | h
  · simp [reenters, h]
  · have hmc : 0 < f.mc := Nat.zero_lt_of_lt (Nat.lt_of_lt_of_le hidx h)
    exact fun hh => batch_not_done h hidx hlt ((batchFull_iff hmc _).mpr ((reenters_iff hmc _).mp hh).1)

/-- the same arm, the join complete; `f.rest` is a visit, so the inner `match` takes its last case -/
theorem advance_join_next (c : Cfg) (fuel ev : Nat) (f : Frame) (rp : Option Nat) (v : Vol) (hnd : notDead c v)
    (hge : f.branches.toList.length ≤ (joinAfter v.joins f ev rp).filled.length) (hv : f.rest.isVisit = true) :
    advance Quirks.none c (fuel + 1) ev .done [f] none rp v =
      ([.pubEv (.visit f.rest [] false none)] ++ releaseOf (joinAfter v.joins f ev rp),
       { v with joins := dropJoin v.joins f.jid }) := by
  have hd : deadJid ({} : Quirks) c v f.jid = false := deadJid_false hnd f.jid
  have hge' : (insertNat f.idx (getJoin v.joins f.jid).filled).length ≥ f.branches.toList.length := hge
  unfold advance
  simp only [Quirks.none, hd, hge', Bool.false_eq_true, if_false, if_true, List.append_nil]
  split
  next h _ => cases h ▸ hv
  next h _ => cases h ▸ hv
  next h => cases h ▸ hv
  next => rfl

/-- … `f.rest = .done`: the inner `match` calls `advance` once more, for the end of the execution: hence two units of fuel -/
theorem advance_join_end (c : Cfg) (fuel ev : Nat) (f : Frame) (rp : Option Nat) (v : Vol) (hnd : notDead c v)
    (hge : f.branches.toList.length ≤ (joinAfter v.joins f ev rp).filled.length) (hv : f.rest = .done) :
    advance Quirks.none c (fuel + 2) ev .done [f] none rp v =
      ([.note true] ++ releaseOf (joinAfter v.joins f ev rp), { v with joins := dropJoin v.joins f.jid }) := by
  have hd : deadJid ({} : Quirks) c v f.jid = false := deadJid_false hnd f.jid
  have hdj : (dropJoin v.joins f.jid).any (fun j => j.dead) = false := by
    simp only [dropJoin, List.any_eq_false, List.mem_filter, Bool.not_eq_true]
    intro x hx
    exact hnd.1 x hx.1
  simp only [joinAfter] at hge
  simp [advance.eq_def, Quirks.none, joinAfter, releaseOf, hv, hd, hdj, hge]
  -- left: the two `match rp`, of `advance` and of `joinAfter`
  rfl

theorem advance_hold_publish (c : Cfg) (fuel ev : Nat) (f : Frame) (rp : Option Nat) (v : Vol) (hnd : notDead c v)
    (hmc : 0 < f.mc) (hlt : (joinAfter v.joins f ev rp).filled.length < f.branches.toList.length)
    (hfull : batchFull f (joinAfter v.joins f ev rp).filled) (hnext : nextStart f < f.branches.toList.length)
    (hrec : (f.jid, nextStart f) ∉ c.batches) :
    advance Quirks.none c (fuel + 1) ev .done [f] none rp v =
      ([.pubEv (.reenter f (nextStart f) [] none)], { v with joins := setJoin v.joins (joinAfter v.joins f ev rp) }) := by
  rw [advance_hold_eq c fuel ev f rp v hnd hlt, if_pos ((reenters_iff hmc _).mpr ⟨hfull, hnext, hrec⟩)]

theorem advance_hold_quiet (c : Cfg) (fuel ev : Nat) (f : Frame) (rp : Option Nat) (v : Vol) (hnd : notDead c v)
    (hmc : 0 < f.mc) (hlt : (joinAfter v.joins f ev rp).filled.length < f.branches.toList.length)
    (hno : ¬ (batchFull f (joinAfter v.joins f ev rp).filled ∧ nextStart f < f.branches.toList.length ∧
      (f.jid, nextStart f) ∉ c.batches)) :
    advance Quirks.none c (fuel + 1) ev .done [f] none rp v =
      ([], { v with joins := setJoin v.joins (joinAfter v.joins f ev rp) }) := by
  rw [advance_hold_eq c fuel ev f rp v hnd hlt, if_neg (mt (reenters_iff hmc _).mp hno)]

/-- **The liveness core.**  `has i`: slot `i` has its event; `rec s`: the batch starting at `s` is on record as started;
`filled i`: the join in memory has the result of slot `i`.  `rb`: a recorded batch whose re-entry event is not queued has been
launched; `held`: all events are held.  Then every slot is launched, hence filled: the join is complete.  (By induction on the
batch number.) -/
theorem all_slots_launched {mc w : Nat} (hmc : 0 < mc) (has filled : Nat → Prop) (rec : Nat → Prop)
    (zero : has 0) (bcover : ∀ i j, has i → j < w → j / mc = i / mc → has j)
    (rb : ∀ s, rec s → has s)
    (bdone : ∀ k, (k + 1) * mc < w → (∀ i, i < w → i / mc = k → filled i) → rec ((k + 1) * mc))
    (held : ∀ i, has i → filled i) :
    ∀ i, i < w → has i := by
  have key : ∀ k i, i < w → i / mc = k → has i := by
    intro k
    induction k with
    | zero =>
      intro i hi hk
      exact bcover 0 i zero hi (by rw [hk, Nat.zero_div])
    | succ k ih =>
      intro i hi hk
      have hle : (k + 1) * mc ≤ i := by
        have := Nat.div_mul_le_self i mc
        rw [hk] at this; exact this
      have hrec := bdone k (Nat.lt_of_le_of_lt hle hi) (fun j hj hjk => held j (ih j hj hjk))
      have hs := rb _ hrec
      exact bcover _ i hs hi (by rw [hk, Nat.mul_div_cancel _ hmc])
  intro i hi
  exact key (i / mc) i hi rfl

/-- slot `i` is accounted as started: it is in the first batch, or its batch is on record -/
def recd (bs : List (Nat × Nat)) (f : Frame) (i : Nat) : Bool :=
  (i / f.mc == 0) || bs.contains (f.jid, i / f.mc * f.mc)

def slotB (f : Frame) (i : Nat) : Sk := (f.branches.toList[i]?).getD .done

/-- `g` summed over the slots that are not accounted as started (they have no event yet) -/
def unl (g : Sk → Nat) (bs : List (Nat × Nat)) (f : Frame) : Nat :=
  ((List.range f.branches.toList.length).map (fun i => if recd bs f i then 0 else g (slotB f i))).sum

/-- `g` summed over the batch that starts at `s` (what the re-entry event for `s` stands for) -/
def bat (g : Sk → Nat) (f : Frame) (s : Nat) : Nat :=
  ((batchOf f.mc f.branches.toList.length s).map (fun i => g (slotB f i))).sum

/-- the re-entry event is published: what was accounted to "not launched" for its batch is accounted to the event -/
theorem unl_publish (g : Sk → Nat) (bs : List (Nat × Nat)) (f : Frame) (hmc : 0 < f.mc) (k : Nat)
    (hrec : (f.jid, (k + 1) * f.mc) ∉ bs) :
    unl g (bs ++ [(f.jid, (k + 1) * f.mc)]) f + bat g f ((k + 1) * f.mc) = unl g bs f := by
  simp only [unl, bat, batchOf, sum_filter_ite]
  rw [← sum_map_add]
  refine congrArg List.sum (List.map_congr_left fun i _ => ?_)
  -- slot `i` is in the new batch, or nothing changes for it
  have hb := batch_iff hmc ((k + 1) * f.mc) i
  rw [Nat.mul_div_cancel _ hmc] at hb
  have hr' : recd (bs ++ [(f.jid, (k + 1) * f.mc)]) f i = (recd bs f i || decide (i / f.mc = k + 1)) := by
    have : (i / f.mc * f.mc = (k + 1) * f.mc) = (i / f.mc = k + 1) := propext ⟨Nat.eq_of_mul_eq_mul_right hmc, fun e => by rw [e]⟩
    simp [recd, Bool.or_assoc, this]
  have hne : ¬ f.mc = 0 := Nat.ne_of_gt hmc
  by_cases hin : i / f.mc = k + 1
  · have hr : recd bs f i = false := by simpa [recd, hin] using hrec
    simp [hr', hr, hin, (hb.mpr hin).1, (hb.mpr hin).2]
  · simp [hr', hin, hne]
    exact fun h1 h2 => absurd (hb.mp ⟨h1, h2⟩) hin

theorem recd_fresh {bs : List (Nat × Nat)} {f : Frame} (hbs : ∀ s, (f.jid, s) ∉ bs) (i : Nat) :
    recd bs f i = (i / f.mc == 0) := by
  have : bs.contains (f.jid, i / f.mc * f.mc) = false := by simpa using hbs _
  unfold recd
  rw [this, Bool.or_false]

/-- `hmc`: there is one batch -/
theorem unl_none (g : Sk → Nat) (bs : List (Nat × Nat)) (f : Frame)
    (hmc : f.mc = 0 ∨ f.branches.toList.length ≤ f.mc) : unl g bs f = 0 := by
  rw [unl, List.sum_eq_zero_iff_forall_eq_nat]
  intro x hx
  obtain ⟨i, hi, rfl⟩ := List.mem_map.mp hx
  have : i / f.mc = 0 := hmc.elim (fun h => by rw [h, Nat.div_zero]) (fun h => Nat.div_eq_of_lt (Nat.lt_of_lt_of_le (List.mem_range.mp hi) h))
  simp [recd, this]

/-- the fan-out state is launched: its first batch gets its events, the rest is "not launched" -/
theorem unl_first (g : Sk → Nat) (bs : List (Nat × Nat)) (f : Frame) (hmc : 0 < f.mc) (hbs : ∀ s, (f.jid, s) ∉ bs) :
    unl g bs f + bat g f 0 = ((List.range f.branches.toList.length).map (fun i => g (slotB f i))).sum := by
  simp only [unl, bat, batchOf, sum_filter_ite]
  rw [← sum_map_add]
  refine congrArg List.sum (List.map_congr_left fun i _ => ?_)
  have hb := batch_iff hmc 0 i
  simp only [Nat.zero_div, Nat.zero_mul, Nat.zero_add, Nat.zero_le, true_and] at hb
  have hne : ¬ f.mc = 0 := Nat.ne_of_gt hmc
  rw [recd_fresh hbs]
  by_cases h0 : i / f.mc = 0
  · simp [h0, hb.mpr h0]
  · have : ¬ i < f.mc := fun h => h0 (hb.mp h)
    simp [h0, this, hne]

/-- what the deferred handler of the re-entry event for `s` (of the fan-out state itself: `s = 0`) publishes -/
theorem launch_map (f : Frame) (s : Nat) (st : List Frame) (o : Option Nat) :
    launch f s st o = (batchOf f.mc f.branches.toList.length s).map
      (fun i => Act.pubEv (.visit (slotB f i) ({ f with idx := i } :: st) false o)) := by
  simp only [launch]
  generalize hb : batchOf f.mc f.branches.toList.length s = l
  have hl : ∀ i ∈ l, i < f.branches.toList.length := by
    intro i hi
    rw [← hb] at hi
    simp only [batchOf, List.mem_filter, List.mem_range] at hi
    exact hi.1
  clear hb
  induction l with
  | nil => rfl
  | cons x xs ih =>
    have hx := hl x (by simp)
    simp only [List.filterMap_cons, List.map_cons]
    rw [List.getElem?_eq_getElem hx]
    simp only [slotB, List.getElem?_eq_getElem hx, Option.getD_some]
    rw [ih (fun i hi => hl i (by simp [hi]))]
    simp only [slotB]

theorem launch_sum (g : Sk → Nat) (f : Frame) (s : Nat) :
    ((batchOf f.mc f.branches.toList.length s).map (fun i => g (slotB f i))).sum = bat g f s := rfl

end Asl.Crash
