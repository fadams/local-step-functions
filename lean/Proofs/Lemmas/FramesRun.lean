/-
Whatever the seven mutually recursive functions of the reference semantics do to the frame state (`St.fs`),
they do through the frame operations of AslModel/Frames.lean: a property of frame states that every
operation preserves (`FrOps`) is preserved by a whole run (`Reach.pres`, `PresAll`).
Second part: the fan-out levels are balanced — a thread-level function leaves `lvl` / `outer` as it found
them, the branch-level functions leave `outer` alone (`Reach.bal`, `BalAll`).  Both by induction over `Reach`.
-/
import AslModel.Interp
import Proofs.Lemmas.Frames
import Proofs.Lemmas.Reach
namespace Asl

structure FrOps (P : FS → Prop) : Prop where
  handover : ∀ fs t n, P fs → P (fs.handover t n)
  closeKeep : ∀ fs t, P fs → P (fs.closeKeep t)
  request : ∀ fs t b, P fs → P (fs.request t b)
  pushLevel : ∀ fs mc, P fs → P (fs.pushLevel mc)
  visit : ∀ fs k, P fs → P (fs.visit k)
  failTok : ∀ fs, P fs → P fs.failTok
  launch : ∀ fs t ns, P fs → P (fs.launch t ns)
  startBranch : ∀ fs, P fs → P fs.startBranch
  endBranch : ∀ fs t b, P fs → P (fs.endBranch t b)
  join : ∀ fs b, P fs → P (fs.join b)
  batch : ∀ fs t n ns, P fs → P (fs.batch t n ns)

theorem fs_fanFail {P : FS → Prop} {b : St} (h : P b.fs) : P ({ b with fanFail := true } : St).fs := h
theorem fs_multiFail {P : FS → Prop} {b : St} (h : P b.fs) : P ({ b with multiFail := true, tieFail := true } : St).fs := h

structure PresAll (P : FS → Prop) (env : Env) (n : Nat) : Prop where
  runFrom : ∀ states name data ctx r st, P st.fs → P (runFrom env n states name data ctx r st).2.fs
  leave : ∀ states name state raw data ctx r st, P st.fs → P (leave env n states name state raw data ctx r st).2.fs
  handleErr : ∀ states name state data ctx r e msg st, P st.fs →
    P (handleErr env n states name state data ctx r e msg st).2.fs
  runState : ∀ states name state data ctx r st, P st.fs → P (runState env n states name state data ctx r st).2.fs
  joinAndLeave : ∀ states name state data ctx r res st, P st.fs →
    P (joinAndLeave env n states name state data ctx r res st).2.fs
  runBranches : ∀ bs params ctx st, P st.fs → P (runBranches env n bs params ctx st).2.fs
  runItems : ∀ proc sel input items i mc be ctx bad st, P st.fs →
    P (runItems env n proc sel input items i mc be ctx bad st).2.fs

theorem Reach.pres {W : Rat → Rat → Prop} {k : Bool} {a b : St} {P : FS → Prop} (ops : FrOps P) (h : Reach W k a b)
    (ha : P a.fs) : P b.fs := by
  induction h with
  | refl => exact ha
  | atClock s _ _ ih _ => exact ih ha
  | entered | exit | fanStarted | fanFailed | wait | taskCall | taskSilent | flags | iterStarted | iterFailed =>
    rename_i ih; exact ih ha
  | handover n _ ih => exact ops.handover _ _ _ (ih ha)
  | closeKeep _ ih => exact ops.closeKeep _ _ (ih ha)
  | request to _ ih => exact ops.request _ _ _ (ih ha)
  | visit ty _ ih => exact ops.visit _ _ (ih ha)
  | failTok _ ih => exact ops.failTok _ (ih ha)
  | startBranch _ ih => exact ops.startBranch _ (ih ha)
  | fan mc f _ _ ih ihi => exact ops.join _ _ (ihi (ops.pushLevel _ _ (ih ha)))
  | launch ns _ ih => exact ops.launch _ _ _ (ih ha)
  | endBranch f _ ih => exact ops.endBranch _ _ _ (ih ha)
  | batch n ns _ ih => exact ops.batch _ _ _ _ (ih ha)

theorem presAll {P : FS → Prop} (ops : FrOps P) (env : Env) (n : Nat) : PresAll P env n :=
  have R := reachAll_any env n
  { runFrom := fun _ _ _ _ _ _ => (R.runFrom (Reach.refl false _) ..).pres ops
    leave := fun _ _ _ _ _ _ _ _ => (R.leave (Reach.refl false _) ..).pres ops
    handleErr := fun _ _ _ _ _ _ _ _ _ => (R.handleErr (Reach.refl false _) ..).pres ops
    runState := fun _ _ _ _ _ _ _ => (R.runState (Reach.refl false _) ..).pres ops
    joinAndLeave := fun _ _ _ _ _ _ _ _ => (R.joinAndLeave (Reach.refl false _) ..).pres ops
    runBranches := fun _ _ _ _ => (R.runBranches (Reach.refl _ _) ..).pres ops
    runItems := fun _ _ _ _ _ _ _ _ _ st =>
      (R.runItems (Reach.refl _ st) _ _ _ _ _ _ _ _ _ (fun _ hb => hb.wait _ trivial)).pres ops }

theorem wfOps : FrOps FS.WF where
  handover := fun _ t n h => h.handover t n
  closeKeep := fun _ t h => h.closeKeep t
  request := fun _ t b h => h.request t b
  pushLevel := fun _ mc h => h.pushLevel mc
  visit := fun _ k h => h.visit k
  failTok := fun _ h => h.failTok
  launch := fun _ t ns h => h.launch t ns
  startBranch := fun _ h => h.startBranch
  endBranch := fun _ t b h => h.endBranch t b
  join := fun _ b h => h.join b
  batch := fun _ t n ns h => h.batch t n ns

def Bal (a b : St) : Prop := b.fs.lvl = a.fs.lvl ∧ b.fs.outer = a.fs.outer
def BalB (a b : St) : Prop := b.fs.outer = a.fs.outer

theorem Bal.refl (a : St) : Bal a a := ⟨rfl, rfl⟩
theorem Bal.toB {a b : St} (h : Bal a b) : BalB a b := h.2

theorem fs_closeKeep_lvl (fs : FS) (t : Rat) : (fs.closeKeep t).lvl = fs.lvl ∧ (fs.closeKeep t).outer = fs.outer := ⟨rfl, rfl⟩
theorem fs_handover_lvl (fs : FS) (t : Rat) (n : Str) : (fs.handover t n).lvl = fs.lvl ∧ (fs.handover t n).outer = fs.outer :=
  ⟨rfl, rfl⟩
theorem fs_request_lvl (fs : FS) (t : Rat) (b : Bool) : (fs.request t b).lvl = fs.lvl ∧ (fs.request t b).outer = fs.outer := by
  unfold FS.request; cases b <;> exact ⟨rfl, rfl⟩
theorem fs_launch_outer (fs : FS) (t : Rat) (ns : List Str) : (fs.launch t ns).outer = fs.outer := by
  unfold FS.launch; split <;> rfl
theorem fs_batch_outer (fs : FS) (t : Rat) (n : Str) (ns : List Str) : (fs.batch t n ns).outer = fs.outer := by
  unfold FS.batch
  simp only
  split
  · rfl
  · unfold FS.batchOn; simp only; rw [fs_launch_outer]; rfl

theorem fs_popLevel_cons (fs : FS) (l : Level) (ls : List Level) (h : fs.outer = l :: ls) :
    (FS.popLevel fs).lvl = l ∧ (FS.popLevel fs).outer = ls := by
  unfold FS.popLevel; rw [h]; exact ⟨rfl, rfl⟩

theorem fs_join_cons (fs : FS) (b : Bool) (l : Level) (ls : List Level) (h : fs.outer = l :: ls) :
    (fs.join b).lvl = l ∧ (fs.join b).outer = ls := by
  unfold FS.join
  simp only
  split
  · exact fs_popLevel_cons fs l ls h
  · unfold FS.joinOn
    exact fs_popLevel_cons _ l ls h

theorem Bal.request {a b : St} (t : Bool) (h : Bal a b) : Bal a (b.request t) :=
  ⟨(fs_request_lvl _ _ _).1.trans h.1, (fs_request_lvl _ _ _).2.trans h.2⟩
theorem Bal.push {a b : St} (e : Ev) (h : Bal a b) : Bal a (b.push e) := h

theorem BalB.combine {a st2 : St} (r : Res) (t1 : Rat) (rest : Except Res (List Json)) (tOk : Rat)
    (h : BalB a st2) : BalB a (fanCombine r t1 rest st2 tOk).2 := by
  obtain ⟨m, t, c, e, _⟩ := fanCombine_snd r t1 rest st2 tOk
  rw [e]
  exact h

structure BalAll (env : Env) (n : Nat) : Prop where
  runFrom : ∀ states name data ctx r st, Bal st (runFrom env n states name data ctx r st).2
  leave : ∀ states name state raw data ctx r st, Bal st (leave env n states name state raw data ctx r st).2
  handleErr : ∀ states name state data ctx r e msg st, Bal st (handleErr env n states name state data ctx r e msg st).2
  runState : ∀ states name state data ctx r st, Bal st (runState env n states name state data ctx r st).2
  joinAndLeave : ∀ states name state data ctx r res st, Bal st (joinAndLeave env n states name state data ctx r res st).2
  runBranches : ∀ bs params ctx st, BalB st (runBranches env n bs params ctx st).2
  runItems : ∀ proc sel input items i mc be ctx bad st, BalB st (runItems env n proc sel input items i mc be ctx bad st).2

theorem bal_same {a b b' : St} {k : Bool} (h : b'.fs.lvl = b.fs.lvl ∧ b'.fs.outer = b.fs.outer)
    (ih : BalB a b ∧ (k = false → Bal a b)) : BalB a b' ∧ (k = false → Bal a b') :=
  ⟨h.2.trans ih.1, fun hk => ⟨h.1.trans (ih.2 hk).1, h.2.trans (ih.2 hk).2⟩⟩

theorem Reach.bal {W : Rat → Rat → Prop} {k : Bool} {a b : St} (h : Reach W k a b) : BalB a b ∧ (k = false → Bal a b) := by
  induction h with
  | refl => exact ⟨rfl, fun _ => Bal.refl _⟩
  | request to _ ih => exact bal_same (fs_request_lvl _ _ _) ih
  | atClock s _ _ ih _ => exact ih
  | entered | exit | fanStarted | fanFailed | wait | taskCall | taskSilent | flags | visit | failTok | startBranch | closeKeep
  | handover =>
    rename_i ih; exact ih
  -- the level is pushed, the branches leave the enclosing levels alone, the join pops it
  | fan mc f _ _ ih ihi => exact bal_same (fs_join_cons _ f _ _ ihi.1) ih
  | launch ns _ ih => exact ⟨(fs_launch_outer _ _ _).trans ih.1, nofun⟩
  | batch n ns _ ih => exact ⟨(fs_batch_outer _ _ _ _).trans ih.1, nofun⟩
  | endBranch f _ ih => exact ⟨ih.1, nofun⟩
  | iterStarted | iterFailed => rename_i ih; exact ⟨ih.1, nofun⟩

theorem balAll (env : Env) (n : Nat) : BalAll env n :=
  have R := reachAll_any env n
  { runFrom := fun _ _ _ _ _ _ => (R.runFrom (Reach.refl false _) ..).bal.2 rfl
    leave := fun _ _ _ _ _ _ _ _ => (R.leave (Reach.refl false _) ..).bal.2 rfl
    handleErr := fun _ _ _ _ _ _ _ _ _ => (R.handleErr (Reach.refl false _) ..).bal.2 rfl
    runState := fun _ _ _ _ _ _ _ => (R.runState (Reach.refl false _) ..).bal.2 rfl
    joinAndLeave := fun _ _ _ _ _ _ _ _ => (R.joinAndLeave (Reach.refl false _) ..).bal.2 rfl
    runBranches := fun _ _ _ _ => (R.runBranches (Reach.refl _ _) ..).bal.1
    runItems := fun _ _ _ _ _ _ _ _ _ st =>
      (R.runItems (Reach.refl _ st) _ _ _ _ _ _ _ _ _ (fun _ hb => hb.wait _ trivial)).bal.1 }

end Asl
