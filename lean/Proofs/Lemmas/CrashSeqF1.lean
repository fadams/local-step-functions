/-
The crash protocol on a sequence of Task visits with the quirk `requestFromTimer` (C04-F1) on: the reachable configurations
when the engine never dies inside the quirk's window (`inWindow`); the execution then still completes.  One event is in flight
at a time, so a reachable configuration can be written out and the operations are equations on it.
-/
import Proofs.Lemmas.CrashHandlers
namespace Asl.Crash

def tasks : Nat → Sk
  | 0 => .done
  | n + 1 => .task 0 (tasks n)

def evm (id m : Nat) (start red una : Bool) : QEv :=
  { id := id, kind := .visit (tasks m) [] start none, redelivered := red, unacked := una }

def rpm (id : Nat) (red una : Bool) : QRp := { corr := id, redelivered := red, unacked := una }

def cfgEnd (nextId : Nat) (sent : List Nat) (running : Nat) : Cfg :=
  { sent := sent, running := running, notes := 1, nextId := nextId }

def skLen : Sk → Nat
  | .task _ r => skLen r + 1
  | _ => 0

theorem skLen_tasks (m : Nat) : skLen (tasks m) = m := by
  induction m with
  | zero => rfl
  | succ m ih => simp [tasks, skLen, ih]

def qF1 : Quirks := { requestFromTimer := true }

/-- the window of C04-F1: a deferred handler is armed for an event whose request has not been sent -/
def inWindow (c : Cfg) : Bool := c.timers.any (fun id => !c.sent.contains id)

def stepW (q : Quirks) (c : Cfg) (op : Op) : Option Cfg :=
  if op = .crash ∧ inWindow c = true then none else step q c op none

def runW (q : Quirks) : Cfg → List Op → Option Cfg
  | c, [] => some c
  | c, op :: rest =>
    match stepW q c op with
    | some c' => runW q c' rest
    | none => none

theorem stepW_of_ne {q : Quirks} {c : Cfg} {op : Op} (h : op ≠ .crash) : stepW q c op = step q c op none :=
  if_neg fun e => h e.1

inductive EvAt where
  | ready | armed | waits
  deriving DecidableEq

inductive RpAt where
  | unsent | ready | retained
  deriving DecidableEq

def EvAt.delivered : EvAt → Bool
  | .ready => false
  | _ => true

def RpAt.queue (id : Nat) (rr : Bool) : RpAt → List QRp
  | .unsent => []
  | .ready => [rpm id rr false]
  | .retained => [rpm id rr true]

def RpAt.orphans (id : Nat) : RpAt → List Nat
  | .retained => [id]
  | _ => []

/-- `red` / `rr`: event / reply are flagged `redelivered`; `ea`, `ra`: where they are -/
def cfgOf1 (id m : Nat) (start red rr : Bool) (sent : List Nat) (running : Nat) (ea : EvAt) (ra : RpAt) : Cfg :=
  { evq := [evm id m start red ea.delivered], rpq := ra.queue id rr, sent := sent, running := running, nextId := id + 1,
    timers := if ea = .armed then [id] else [], pending := if ea = .waits then [id] else [], orphans := ra.orphans id }

def next1 (id : Nat) (sent : List Nat) (running : Nat) : Nat → Cfg
  | 0 => cfgEnd (id + 1) sent running
  | m + 1 => cfgOf1 (id + 1) (m + 1) false false false sent running .ready .unsent

section
variable {id m : Nat} {start red rr : Bool} {sent : List Nat} {running : Nat} {ea : EvAt} {ra : RpAt}

attribute [local simp] cfgOf1 evm rpm tasks EvAt.delivered RpAt.queue RpAt.orphans qF1 Cfg.vol Cfg.handler Cfg.withVol

theorem step1_ev (j : Nat) :
    step qF1 (cfgOf1 id (m + 1) start red rr sent running ea ra) (.ev j) none =
      if j = id ∧ ea = .ready then some (cfgOf1 id (m + 1) start red rr sent (running + if start then 1 else 0) .armed ra)
      else none := by
  by_cases hj : id = j
  · subst hj
    cases ea with
    | ready => cases start <;> simp [step, findEv, markEv, inDeadJoin, evJids, evOwner, Cfg.act, insertNat]
    | _ => simp [step, findEv]
  · have hj' : ¬ j = id := fun e => hj e.symm
    simp [step, findEv, hj, hj']

theorem step1_tm (j : Nat) (hra : red = false → ea = .armed → ra = .unsent) :
    step qF1 (cfgOf1 id (m + 1) start red rr sent running ea ra) (.tm j) none =
      if j = id ∧ ea = .armed then
        some (if red then cfgOf1 id (m + 1) start red rr sent running .waits ra
          else cfgOf1 id (m + 1) start false false (sent ++ [id]) running .waits .ready)
      else none := by
  by_cases hj : id = j
  · subst hj
    cases ea with
    | armed =>
      cases red
      · obtain rfl := hra rfl rfl
        simp [step, findEv, inDeadJoin, evJids, evOwner, waitVisit, Cfg.act, insertNat, requestOf]
      · simp [step, findEv, inDeadJoin, evJids, evOwner, waitVisit, insertNat]
    | _ => simp [step, findEv]
  · have hj' : ¬ j = id := fun e => hj e.symm
    simp [step, findEv, hj, hj']

theorem step1_rp (j : Nat) :
    step qF1 (cfgOf1 id (m + 1) start red rr sent running ea ra) (.rp j) none =
      if j = id ∧ ra = .ready then
        some (if ea = .waits then next1 id sent running m else cfgOf1 id (m + 1) start red rr sent running ea .retained)
      else none := by
  by_cases hj : id = j
  · subst hj
    cases ra with
    | ready =>
      cases ea with
      | waits =>
        cases m <;>
          simp [step, next1, cfgEnd, markRpL, onReply, findEv, advance.eq_def, fuelOf, evStack, Cfg.act, removeFirst, batchKey]
      | _ => simp [step, markRpL, insertNat]
    | _ => simp [step]
  · have hj' : ¬ j = id := fun e => hj e.symm
    cases ra <;> simp [step, hj, hj']

theorem step1_tick :
    step qF1 (cfgOf1 id (m + 1) start red rr sent running ea ra) .tick none =
      some (if ea = .waits ∧ ra = .retained then next1 id sent running m
        else cfgOf1 id (m + 1) start red rr sent running ea ra) := by
  cases ra with
  | retained =>
    cases ea with
    | waits =>
      cases m <;>
        simp [step, next1, cfgEnd, onReply, findEv, advance.eq_def, fuelOf, evStack, Cfg.act, removeFirst, batchKey]
    | _ => simp [step]
  | _ => simp [step]

theorem crash1 :
    (cfgOf1 id m start red rr sent running ea ra).crash =
      cfgOf1 id m start (red || ea.delivered) (rr || ra == .retained) sent running .ready
        (if ra = .retained then .ready else ra) := by
  cases ra <;> cases ea <;> simp [Cfg.crash]

theorem inWindow1 :
    inWindow (cfgOf1 id m start red rr sent running ea ra) = (ea == .armed && !sent.contains id) := by
  cases ea <;> simp [inWindow]

end

theorem step1_ev_empty : step qF1 (init .done) (.ev 0) none = some (cfgEnd 1 [] 1) := rfl

theorem step1_empty {c' : Cfg} (op : Op) (hs : stepW qF1 (init .done) op = some c') :
    c' = init .done ∨ c' = cfgEnd 1 [] 1 := by
  cases op with
  | ev j =>
    rw [stepW_of_ne (by simp)] at hs
    by_cases hj : j = 0
    · rw [hj, step1_ev_empty] at hs; exact .inr (Option.some.inj hs).symm
    · have hj' : ¬ 0 = j := fun e => hj e.symm
      simp [step, init, findEv, hj'] at hs
  | tm j => simp [stepW, step, init, findEv] at hs
  | rp j => simp [stepW, step, init] at hs
  | tick => exact .inl (by simpa [stepW, step, init, Cfg.handler, Cfg.vol, Cfg.withVol] using hs.symm)
  | crash => exact .inl (by simpa [stepW, step, init, inWindow, Cfg.crash] using hs.symm)

-- `stepW` on a configuration written out, in a hypothesis
macro "crash_simp1" " at " h:ident : tactic => `(tactic|
  simp [stepW, inWindow, step, cfgOf1, cfgEnd, findEv, evm, markEv, markRpL, tasks, qF1, Cfg.handler, Cfg.vol, Cfg.withVol,
    Cfg.act, Cfg.crash, insertNat, rpm, onReply, advance, fuelOf, removeFirst, inDeadJoin, evStack, requestOf, batchKey, evJids, evOwner, deadJid, dropEv, waitVisit, hasRecords] at $h:ident)

theorem step1_ended {nextId : Nat} {sent : List Nat} {running : Nat} {c' : Cfg} (op : Op)
    (hs : stepW qF1 (cfgEnd nextId sent running) op = some c') : c' = cfgEnd nextId sent running := by
  cases op <;> simp [stepW, inWindow, step, cfgEnd, findEv, Cfg.handler, Cfg.vol, Cfg.withVol, Cfg.crash] at hs <;> exact hs.symm

/-- `hout` is what the engine's rule (a redelivered event has been requested) relies on; only a crash inside the window (it
flags an armed event whose request is not out) breaks it. -/
inductive Inv1 (N : Nat) : Cfg → Prop where
  | empty (h0 : N = 0) : Inv1 N (init .done)
  | run {id m : Nat} {start red rr : Bool} {sent : List Nat} {running : Nat} {ea : EvAt} {ra : RpAt}
      (hnd : sent.Nodup) (hle : ∀ x ∈ sent, x ≤ id)
      (hin : id ∈ sent ↔ ra ≠ .unsent)
      (hout : (red = true ∨ ea = .waits) ↔ id ∈ sent)
      (hlen : sent.length + m + (if id ∈ sent then 0 else 1) = N) :
      Inv1 N (cfgOf1 id (m + 1) start red rr sent running ea ra)
  | ended (nextId : Nat) (sent : List Nat) (running : Nat) (hnd : sent.Nodup) (hlen : sent.length = N) :
      Inv1 N (cfgEnd nextId sent running)

section
variable {N : Nat}

theorem inv1_init (N : Nat) : Inv1 N (init (tasks N)) := by
  cases N with
  | zero => exact .empty rfl
  | succ n =>
    exact .run (id := 0) (start := true) (red := false) (rr := false) (ea := .ready) (ra := .unsent) List.nodup_nil (by simp) (by simp)
      (by simp) (by simp)

theorem inv1_next (id m : Nat) (sent : List Nat) (running : Nat)
    (hnd : sent.Nodup) (hle : ∀ x ∈ sent, x ≤ id) (hlen : sent.length + m = N) : Inv1 N (next1 id sent running m) := by
  cases m with
  | zero => exact .ended _ _ _ hnd hlen
  | succ m =>
    have hnin : id + 1 ∉ sent := fun hc => absurd (hle _ hc) (Nat.not_succ_le_self id)
    exact .run hnd (fun x hx => Nat.le_succ_of_le (hle x hx))
      (by simp [hnin]) (by simp [hnin]) (by simp [hnin]; omega)

theorem inv1_step {c c' : Cfg} {op : Op} (h : Inv1 N c) (hs : stepW qF1 c op = some c') : Inv1 N c' := by
  cases h with
  | empty h0 =>
    rcases step1_empty op hs with rfl | rfl
    · exact .empty h0
    · exact .ended _ _ _ List.nodup_nil h0.symm
  | ended nextId sent running hnd hlen => exact step1_ended op hs ▸ .ended nextId sent running hnd hlen
  | @run id m start red rr sent running ea ra hnd hle hin hout hlen =>
    cases op with
    | ev j =>
      rw [stepW_of_ne (by simp), step1_ev, Option.ite_none_right_eq_some] at hs
      obtain ⟨⟨rfl, rfl⟩, hs⟩ := hs
      cases hs
      exact .run hnd hle hin (by simpa using hout) hlen
    | tm j =>
      rw [stepW_of_ne (by simp), step1_tm j fun hr he => by simpa [hr, he, hin] using hout,
        Option.ite_none_right_eq_some] at hs
      obtain ⟨⟨rfl, rfl⟩, hs⟩ := hs
      cases hs
      cases red with
      | true => exact .run hnd hle hin (by simpa using hout) hlen
      | false =>
        -- the flag is off, so the request is not out: it is sent now
        have hnin : j ∉ sent := by simpa using hout
        exact .run (nodup_concat hnd hnin)
          (fun x hx => (List.mem_append.mp hx).elim (hle x) fun hx => Nat.le_of_eq (List.mem_singleton.mp hx))
          (by simp) (by simp) (by simp [hnin] at hlen ⊢; omega)
    | rp j =>
      rw [stepW_of_ne (by simp), step1_rp, Option.ite_none_right_eq_some] at hs
      obtain ⟨⟨rfl, rfl⟩, hs⟩ := hs
      have hs' : j ∈ sent := hin.mpr (by simp)
      cases hs
      split
      · exact inv1_next _ _ _ _ hnd hle (by simpa [hs'] using hlen)
      · exact .run hnd hle (by simpa using hs') hout hlen
    | tick =>
      rw [stepW_of_ne (by simp), step1_tick] at hs
      cases hs
      split
      · rename_i hw
        obtain ⟨rfl, rfl⟩ := hw
        have hs' : id ∈ sent := hin.mpr (by simp)
        exact inv1_next _ _ _ _ hnd hle (by simpa [hs'] using hlen)
      · exact .run hnd hle hin hout hlen
    | crash =>
      unfold stepW at hs
      rw [inWindow1, step_crash_eq qF1 rfl, crash1, Option.ite_none_left_eq_some] at hs
      obtain ⟨hw, hs⟩ := hs
      cases hs
      refine .run hnd hle ?_ ?_ hlen
      · cases ra <;> simpa using hin
      · -- delivered means waiting, or armed outside the window: the request is out
        cases ea with
        | ready => simpa [EvAt.delivered] using hout
        | armed => simpa [EvAt.delivered] using hw
        | waits => simpa [EvAt.delivered] using hout

theorem inv1_run {c c' : Cfg} {ops : List Op} (h : Inv1 N c) (hr : runW qF1 c ops = some c') : Inv1 N c' := by
  fun_induction runW qF1 c ops with
  | case1 c => exact Option.some.inj hr ▸ h
  | case2 c op rest c1 h1 ih => exact ih (inv1_step h h1) hr
  | case3 => cases hr

/-- what is left to do, with the deferred handler as a step of its own -/
def mu1 (c : Cfg) : Nat :=
  match c.evq with
  | [e] => (match e.kind with
    | .visit todo _ _ _ => 4 * skLen todo + (if e.unacked then (if c.timers.isEmpty then 1 else 2) else 3)
    | _ => 0)
  | _ => 0

theorem mu1_cfgOf1 (id m : Nat) (start red rr : Bool) (sent : List Nat) (running : Nat) (ea : EvAt) (ra : RpAt) :
    mu1 (cfgOf1 id m start red rr sent running ea ra) = 4 * m + match ea with | .ready => 3 | .armed => 2 | .waits => 1 := by
  cases ea <;> simp [mu1, cfgOf1, evm, EvAt.delivered, skLen_tasks]

theorem mu1_next1 (id m : Nat) (sent : List Nat) (running : Nat) : mu1 (next1 id sent running m) ≤ 4 * m + 3 := by
  cases m with
  | zero => simp [next1, mu1, cfgEnd]
  | succ m => rw [next1, mu1_cfgOf1]; exact Nat.le_refl _

theorem inv1_progress (c : Cfg) (h : Inv1 N c) :
    (∃ nextId sent running, c = cfgEnd nextId sent running ∧ sent.Nodup ∧ sent.length = N) ∨
    (∃ op c', nextOp c = some op ∧ step qF1 c op none = some c' ∧ Inv1 N c' ∧ mu1 c' < mu1 c) := by
  have key : ∀ {op : Op} {c' : Cfg}, nextOp c = some op → op ≠ .crash → step qF1 c op none = some c' → mu1 c' < mu1 c →
      ∃ op c', nextOp c = some op ∧ step qF1 c op none = some c' ∧ Inv1 N c' ∧ mu1 c' < mu1 c :=
    fun hop hne hs hlt => ⟨_, _, hop, hs, inv1_step h (by rw [stepW_of_ne hne]; exact hs), hlt⟩
  cases h with
  | empty h0 => exact .inr (key (op := .ev 0) rfl (by simp) step1_ev_empty (by decide))
  | ended nextId sent running hnd hlen => exact .inl ⟨nextId, sent, running, rfl, hnd, hlen⟩
  | @run id m start red rr sent running ea ra hnd hle hin hout hlen =>
    right
    cases ea with
    | ready =>
      exact key (op := .ev id) rfl (by simp)
        (by rw [step1_ev, if_pos ⟨rfl, rfl⟩]) (by simp [mu1_cfgOf1])
    | armed =>
      refine key (op := .tm id) rfl (by simp)
        (by rw [step1_tm id fun hr _ => by simpa [hr, hin] using hout, if_pos ⟨rfl, rfl⟩]) ?_
      cases red <;> simp [mu1_cfgOf1]
    | waits =>
      have := mu1_next1 id m sent running
      cases ra with
      | unsent => simp at hin hout; exact absurd hout hin
      | ready =>
        exact key (op := .rp id) rfl (by simp)
          (by rw [step1_rp, if_pos ⟨rfl, rfl⟩]) (by simp [mu1_cfgOf1]; omega)
      | retained =>
        exact key (op := .tick) (by simp [nextOp, cfgOf1, evm, EvAt.delivered, RpAt.queue, RpAt.orphans, rpm]) (by simp)
          (by rw [step1_tick]) (by simp [mu1_cfgOf1]; omega)

theorem drain1_ends (fuel : Nat) (c : Cfg) (h : Inv1 N c) (hf : mu1 c ≤ fuel) :
    ∃ nextId sent running, drain qF1 fuel c = cfgEnd nextId sent running ∧ sent.Nodup ∧ sent.length = N := by
  have hstep : ∀ c op, Inv1 N c → nextOp c = some op →
      ∃ c', step qF1 c op none = some c' ∧ Inv1 N c' ∧ mu1 c' < mu1 c := by
    intro c op h hop
    rcases inv1_progress c h with ⟨_, _, _, rfl, _⟩ | ⟨op', c', hn, hs⟩
    · cases hop
    · rw [hn] at hop; cases hop; exact ⟨c', hs⟩
  obtain ⟨hi, hq⟩ := drain_rest qF1 hstep fuel c h hf
  rcases inv1_progress _ hi with e | ⟨op, c', hn, _⟩
  · exact e
  · rw [hq] at hn; cases hn

end
end Asl.Crash
