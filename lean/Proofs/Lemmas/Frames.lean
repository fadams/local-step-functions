/-
The invariant `FS.WF` of the frame state of the reference semantics (`FS`, AslModel/Frames.lean): closed steps are ordered
and, unless `early`, acknowledge only after publishing; the ledger (AslModel/Ledger.lean) replayed over them is sound and has
outstanding what the thread and the branches put aside still owe; what a thread has to acknowledge (`hold ++ now`) is what it
owes plus what its step in progress delivered.  The operations touch it in three ways only: frames that are no
acknowledgements join the step in progress (`FS.WF.append`), a step is closed (`Closed.close`), a step in progress moves
between the thread and the branches put aside (`Tail.Ok`).  All of it is counted per message (`List.count`), so that the
arithmetic is `omega`'s.
-/
import AslModel.Frames
import AslModel.Ledger
namespace Asl

def toFr : BFr → Fr
  | .deliver m => .deliver m
  | .ack m => .ack m
  | _ => .pub

def dlv : List BFr → List Nat
  | [] => []
  | .deliver m :: fs => m :: dlv fs
  | _ :: fs => dlv fs

def noAck (fs : List BFr) : Prop := ∀ f ∈ fs, f.isAck = false

theorem noAck_nil : noAck [] := fun _ h => nomatch h
theorem noAck_cons {f : BFr} {fs : List BFr} : noAck (f :: fs) ↔ f.isAck = false ∧ noAck fs := List.forall_mem_cons
theorem noAck_append {a b : List BFr} : noAck (a ++ b) ↔ noAck a ∧ noAck b := List.forall_mem_append
theorem noAck_reverse {a : List BFr} : noAck a.reverse ↔ noAck a := by simp [noAck]

theorem dlv_eq_filterMap (l : List BFr) : dlv l = l.filterMap (fun | .deliver m => some m | _ => none) := by
  fun_induction dlv l <;> simp [*]

theorem dlv_append (a b : List BFr) : dlv (a ++ b) = dlv a ++ dlv b := by
  simp only [dlv_eq_filterMap, List.filterMap_append]

theorem dlv_count_reverse (a : List BFr) (t : Nat) : (dlv a.reverse).count t = (dlv a).count t := by
  rw [dlv_eq_filterMap, List.filterMap_reverse, List.count_reverse, dlv_eq_filterMap]

theorem pubs_noAck {l : List BFr} (h : ∀ f ∈ l, f.isPub = true) : noAck l := by
  intro f hf
  cases f with
  | ack m => cases h _ hf
  | _ => rfl

theorem pubs_dlv {l : List BFr} (h : ∀ f ∈ l, f.isPub = true) : dlv l = [] := by
  rw [dlv_eq_filterMap, List.filterMap_eq_nil_iff]
  intro f hf
  cases f with
  | deliver m => cases h _ hf
  | _ => rfl

theorem isAck_toFr (f : BFr) : isAck (toFr f) = f.isAck := by cases f <;> rfl
theorem isOut_toFr (f : BFr) : isOut (toFr f) = f.isPub := by cases f <;> rfl

theorem ledger_run_append (a b : List Fr) : Ledger.run (a ++ b) = b.foldl Ledger.step (Ledger.run a) := by
  simp [Ledger.run, List.foldl_append]

theorem Ledger.step_ack {l : Ledger} {a : Nat} (h : a ∈ l.unacked) (t : Nat) :
    (l.step (.ack a)).bad = l.bad ∧
    (l.step (.ack a)).unacked.count t + (if a == t then 1 else 0) = l.unacked.count t := by
  have := List.count_pos_iff.mpr h
  simp only [Ledger.step, List.contains_iff_mem, h, if_true, List.count_erase, true_and]
  split
  · rename_i e; cases eq_of_beq e; omega
  · omega

theorem Ledger.step_ack_bad {l : Ledger} {a : Nat} (h : a ∉ l.unacked) : (l.step (.ack a)).bad = true := by
  simp [Ledger.step, h]

theorem fold_noAck (fr : List BFr) (l : Ledger) (h : noAck fr) :
    (fr.map toFr).foldl Ledger.step l = { l with unacked := (dlv fr).reverse ++ l.unacked } := by
  induction fr generalizing l with
  | nil => rfl
  | cons f fs ih =>
    obtain ⟨hf, hfs⟩ := noAck_cons.mp h
    rw [List.map_cons, List.foldl_cons, ih _ hfs]
    cases f with
    | ack m => cases hf
    | deliver m => simp [toFr, Ledger.step, dlv]
    | _ => rfl

theorem fold_acks (acks : List Nat) (l : Ledger) (hb : l.bad = false)
    (h : ∀ t, acks.count t ≤ l.unacked.count t) :
    (((acks.map BFr.ack).map toFr).foldl Ledger.step l).bad = false ∧
    ∀ t, (((acks.map BFr.ack).map toFr).foldl Ledger.step l).unacked.count t + acks.count t = l.unacked.count t := by
  induction acks generalizing l with
  | nil => simp [hb]
  | cons a as ih =>
    have ha : a ∈ l.unacked := List.count_pos_iff.mp (by have := h a; rw [List.count_cons_self] at this; omega)
    have hs := Ledger.step_ack ha
    obtain ⟨ih1, ih2⟩ := ih (l.step (.ack a)) ((hs a).1.trans hb)
      (fun t => by have := (hs t).2; have := h t; rw [List.count_cons] at this; omega)
    simp only [List.map_cons, List.foldl_cons, toFr]
    exact ⟨ih1, fun t => by have := ih2 t; have := (hs t).2; rw [List.count_cons]; omega⟩

theorem fold_step (fr : List BFr) (acks : List Nat) (l : Ledger) (hb : l.bad = false) (hn : noAck fr)
    (h : ∀ t, acks.count t ≤ l.unacked.count t + (dlv fr).count t) :
    (((fr ++ acks.map BFr.ack).map toFr).foldl Ledger.step l).bad = false ∧
    ∀ t, (((fr ++ acks.map BFr.ack).map toFr).foldl Ledger.step l).unacked.count t + acks.count t =
      l.unacked.count t + (dlv fr).count t := by
  have hc : ∀ t, ((dlv fr).reverse ++ l.unacked).count t = l.unacked.count t + (dlv fr).count t := fun t => by
    rw [List.count_append, List.count_reverse, Nat.add_comm]
  rw [List.map_append, List.foldl_append, fold_noAck fr l hn]
  simp only [← hc] at h ⊢
  exact fold_acks acks _ hb h

theorem ordered_acks (acks : List Nat) : stepOrdered ((acks.map BFr.ack).map toFr) = true := by
  induction acks with
  | nil => rfl
  | cons a as ih => simpa [stepOrdered, isAck, toFr, isOut] using ih

theorem ordered_step (fr : List BFr) (acks : List Nat) (h : noAck fr) :
    stepOrdered ((fr ++ acks.map BFr.ack).map toFr) = true := by
  induction fr with
  | nil => exact ordered_acks acks
  | cons f fs ih =>
    obtain ⟨hf, hfs⟩ := noAck_cons.mp h
    simp only [List.cons_append, List.map_cons, stepOrdered, isAck_toFr, hf]
    exact ih hfs

def tsum (g : Tail → Nat) (l : List Tail) : Nat := (l.map g).sum

@[simp] theorem tsum_nil (g : Tail → Nat) : tsum g [] = 0 := rfl
@[simp] theorem tsum_cons (g : Tail → Nat) (f : Tail) (l : List Tail) : tsum g (f :: l) = g f + tsum g l := by
  simp [tsum]
@[simp] theorem tsum_append (g : Tail → Nat) (a b : List Tail) : tsum g (a ++ b) = tsum g a + tsum g b := by
  simp [tsum, List.sum_append]

theorem tsum_filter (g : Tail → Nat) (p : Tail → Bool) (l : List Tail) :
    tsum g (l.filter p) + tsum g (l.filter (fun f => !p f)) = tsum g l := by
  rw [← tsum_append]
  exact ((List.filter_append_perm p l).map g).sum_nat

theorem tsum_congr {g h : Tail → Nat} {l : List Tail} (e : ∀ f ∈ l, g f = h f) : tsum g l = tsum h l :=
  congrArg List.sum (List.map_congr_left e)

theorem tsum_add (a b : Tail → Nat) (l : List Tail) : tsum (fun f => a f + b f) l = tsum a l + tsum b l := by
  induction l with
  | nil => rfl
  | cons f l ih => simp only [tsum_cons, ih]; omega

theorem count_flatMap (h : Tail → List Nat) (l : List Tail) (t : Nat) :
    (l.flatMap h).count t = tsum (fun f => (h f).count t) l := by
  rw [List.count_flatMap]; rfl

theorem dlv_flatMap_count (h : Tail → List BFr) (l : List Tail) (t : Nat) :
    (dlv (l.flatMap h)).count t = tsum (fun f => (dlv (h f)).count t) l := by
  simp only [dlv_eq_filterMap, List.filterMap_flatMap, count_flatMap]

theorem tsum_map_if (g : Tail → Nat) (p : Tail → Bool) (h : Tail → Tail) (l : List Tail) :
    tsum g (l.map (fun f => if p f then h f else f)) =
      tsum (fun f => g (h f)) (l.filter p) + tsum g (l.filter (fun f => !p f)) := by
  induction l with
  | nil => rfl
  | cons f l ih =>
    cases hp : p f <;> simp [hp, ih] <;> omega

def framesOf (steps : List BStep) : List BFr := steps.reverse.flatMap (·.frames)

theorem FS.frames_eq (fs : FS) : fs.frames = framesOf fs.steps := rfl

theorem framesOf_mkStep (t : Rat) (fr : List BFr) (e : Bool) (steps : List BStep) :
    framesOf (FS.mkStep t fr e steps) = framesOf steps ++ fr := by
  unfold FS.mkStep
  split
  · rename_i h
    have : fr = [] := by simpa using h
    simp [this]
  · simp [framesOf, List.reverse_cons, List.flatMap_append]

theorem forall_mem_mkStep {P : BStep → Prop} {t : Rat} {fr : List BFr} {e : Bool} {steps : List BStep}
    (h : ∀ s ∈ steps, P s) (hnew : P { t := t, frames := fr, early := e }) : ∀ s ∈ FS.mkStep t fr e steps, P s := by
  unfold FS.mkStep
  split
  · exact h
  · exact List.forall_mem_cons.mpr ⟨hnew, h⟩

theorem any_isAck_false {fr : List BFr} (h : noAck fr) : fr.any BFr.isAck = false := by
  simpa [noAck] using h

/-- what `FS.WF` says of the closed steps alone; `out t`: the deliveries of message `t` the ledger has outstanding -/
structure Closed (steps : List BStep) (out : Nat → Nat) : Prop where
  ordered : ∀ s ∈ steps, stepOrdered (s.frames.map toFr) = true
  sound : (Ledger.run ((framesOf steps).map toFr)).bad = false
  owes : ∀ t, (Ledger.run ((framesOf steps).map toFr)).unacked.count t = out t
  consequence : ∀ s ∈ steps, s.early = false → s.frames.any BFr.isAck = true → s.frames.any BFr.isPub = true

theorem Closed.congr {steps : List BStep} {out out' : Nat → Nat} (h : Closed steps out) (e : ∀ t, out t = out' t) :
    Closed steps out' :=
  ⟨h.ordered, h.sound, fun t => (h.owes t).trans (e t), h.consequence⟩

theorem Closed.close {steps : List BStep} {out out' : Nat → Nat} (h : Closed steps out) (t : Rat) {fr : List BFr}
    (acks : List Nat) (early : Bool) (hn : noAck fr)
    (hout : ∀ x, out' x + acks.count x = out x + (dlv fr).count x)
    (hp : early = false → acks ≠ [] → fr.any BFr.isPub = true) :
    Closed (FS.mkStep t (fr ++ acks.map .ack) early steps) out' := by
  have hf := fold_step fr acks (Ledger.run ((framesOf steps).map toFr)) h.sound hn
    (fun x => by rw [h.owes x]; have := hout x; omega)
  constructor
  · exact forall_mem_mkStep h.ordered (ordered_step _ _ hn)
  · rw [framesOf_mkStep, List.map_append, ledger_run_append]
    exact hf.1
  · intro x
    rw [framesOf_mkStep, List.map_append, ledger_run_append]
    have := hout x
    have := hf.2 x
    rw [h.owes x] at this
    omega
  · refine forall_mem_mkStep h.consequence fun he ha => ?_
    rw [List.any_append, hp he ?_, Bool.true_or]
    -- without acknowledgements the step has none
    rintro rfl
    rw [List.map_nil, List.append_nil, any_isAck_false hn] at ha
    cases ha

def FS.allTails (fs : FS) : List Tail := fs.lvl.fins ++ fs.outer.flatMap (·.fins)

structure FS.WF (fs : FS) : Prop where
  ordered : ∀ s ∈ fs.steps, stepOrdered (s.frames.map toFr) = true
  openNoAck : noAck fs.open_
  tailsNoAck : ∀ f ∈ fs.allTails, noAck f.frames
  sound : (Ledger.run ((framesOf fs.steps).map toFr)).bad = false
  owes : ∀ t, (Ledger.run ((framesOf fs.steps).map toFr)).unacked.count t =
    fs.owed.count t + tsum (fun f => f.owed.count t) fs.allTails
  thread : ∀ t, fs.hold.count t + fs.now.count t = fs.owed.count t + (dlv fs.open_).count t
  tails : ∀ f ∈ fs.allTails, ∀ t, f.hold.count t + f.now.count t = f.owed.count t + (dlv f.frames).count t
  consequence : ∀ s ∈ fs.steps, s.early = false → s.frames.any BFr.isAck = true → s.frames.any BFr.isPub = true

theorem FS.WF.closed {fs : FS} (h : fs.WF) :
    Closed fs.steps (fun t => fs.owed.count t + tsum (fun f => f.owed.count t) fs.allTails) :=
  ⟨h.ordered, h.sound, h.owes, h.consequence⟩

def Tail.Ok (f : Tail) : Prop :=
  noAck f.frames ∧ ∀ t, f.hold.count t + f.now.count t = f.owed.count t + (dlv f.frames).count t

theorem FS.WF.tailOk {fs : FS} (h : fs.WF) (f : Tail) (hf : f ∈ fs.allTails) : f.Ok := ⟨h.tailsNoAck f hf, h.tails f hf⟩

theorem FS.WF.of_closed {fs : FS}
    (c : Closed fs.steps (fun t => fs.owed.count t + tsum (fun f => f.owed.count t) fs.allTails)) (hopen : noAck fs.open_)
    (htails : ∀ f ∈ fs.allTails, f.Ok)
    (hthread : ∀ t, fs.hold.count t + fs.now.count t = fs.owed.count t + (dlv fs.open_).count t) : fs.WF :=
  { ordered := c.ordered, openNoAck := hopen, tailsNoAck := fun f hf => (htails f hf).1, sound := c.sound, owes := c.owes,
    thread := hthread, tails := fun f hf => (htails f hf).2, consequence := c.consequence }

theorem FS.WF.append {fs fs' : FS} (h : fs.WF) (l : List BFr) (hl : noAck l) (hsteps : fs'.steps = fs.steps)
    (hopen : fs'.open_ = l ++ fs.open_) (howed : fs'.owed = fs.owed) (htails : fs'.allTails = fs.allTails)
    (ht : ∀ t, fs'.hold.count t + fs'.now.count t = fs.hold.count t + fs.now.count t + (dlv l).count t) : fs'.WF := by
  refine .of_closed ?_ ?_ ?_ fun t => ?_
  · rw [hsteps, howed, htails]; exact h.closed
  · rw [hopen]; exact noAck_append.mpr ⟨hl, h.openNoAck⟩
  · rw [htails]; exact h.tailOk
  · rw [ht t, hopen, howed, dlv_append, List.count_append, h.thread t]
    omega

theorem FS.WF.congr {fs fs' : FS} (h : fs.WF) (hsteps : fs'.steps = fs.steps) (hopen : fs'.open_ = fs.open_)
    (hhold : fs'.hold = fs.hold) (hnow : fs'.now = fs.now) (howed : fs'.owed = fs.owed)
    (htails : fs'.allTails = fs.allTails) : fs'.WF :=
  h.append [] noAck_nil hsteps hopen howed htails (fun t => by rw [hhold, hnow]; rfl)

theorem wf_init : ({} : FS).WF where
  ordered := fun _ h => nomatch h
  openNoAck := noAck_cons.mpr ⟨rfl, noAck_cons.mpr ⟨rfl, noAck_nil⟩⟩
  tailsNoAck := fun _ h => nomatch h
  sound := rfl
  owes := fun _ => rfl
  thread := fun _ => (Nat.zero_add _).symm
  tails := fun _ h => nomatch h
  consequence := fun _ h => nomatch h

theorem FS.WF.pubs {fs : FS} (h : fs.WF) (l : List BFr) (hl : ∀ f ∈ l, f.isPub = true) :
    ({ fs with open_ := l ++ fs.open_ } : FS).WF :=
  h.append l (pubs_noAck hl) rfl rfl rfl rfl (fun t => by rw [pubs_dlv hl]; rfl)

theorem FS.WF.pub {fs : FS} (h : fs.WF) (f : BFr) (hp : f.isPub = true) : (fs.pub f).WF :=
  h.pubs [f] (by simpa using hp)

theorem FS.WF.deliverHold {fs : FS} (h : fs.WF) (m : Nat) : (fs.deliverHold m).WF :=
  h.append [.deliver m] (noAck_cons.mpr ⟨rfl, noAck_nil⟩) rfl rfl rfl rfl
    (fun t => by simp only [FS.deliverHold, dlv, List.count_append]; omega)

theorem FS.WF.deliverNow {fs : FS} (h : fs.WF) (m : Nat) : (fs.deliverNow m).WF :=
  h.append [.deliver m] (noAck_cons.mpr ⟨rfl, noAck_nil⟩) rfl rfl rfl rfl
    (fun t => by simp only [FS.deliverNow, dlv, List.count_append]; omega)

theorem FS.WF.closeKeep {fs : FS} (h : fs.WF) (t : Rat) : (fs.closeKeep t).WF := by
  have c := h.closed.close t [] false (noAck_reverse.mpr h.openNoAck)
    (out' := fun x => (fs.hold ++ fs.now).count x + tsum (fun f => f.owed.count x) fs.allTails)
    (fun x => by have := h.thread x; simp only [List.count_append, List.count_nil, dlv_count_reverse]; omega)
    (fun _ hne => absurd rfl hne)
  rw [List.map_nil, List.append_nil] at c
  exact .of_closed c noAck_nil h.tailOk (fun x => by simp [FS.closeKeep, dlv])

/-- the step ends with the acknowledgements: it has published something -/
theorem FS.WF.closeAck {fs : FS} (h : fs.WF) (t : Rat) (hp : fs.open_.any BFr.isPub = true) : (fs.closeAck t).WF := by
  have c := h.closed.close t (fs.hold ++ fs.now) false (noAck_reverse.mpr h.openNoAck)
    (out' := fun x => [].count x + tsum (fun f => f.owed.count x) fs.allTails)
    (fun x => by have := h.thread x; simp only [List.count_append, List.count_nil, dlv_count_reverse]; omega)
    (fun _ _ => by rw [List.any_reverse]; exact hp)
  exact .of_closed c noAck_nil h.tailOk (fun _ => rfl)

theorem FS.WF.handover {fs : FS} (h : fs.WF) (t : Rat) (name : Str) : (fs.handover t name).WF := by
  have h1 := (h.pub (.pubEv fs.next name fs.path) rfl).closeAck t (by simp [FS.pub, BFr.isPub])
  refine FS.WF.deliverHold ?_ _
  exact h1.congr rfl rfl rfl rfl rfl rfl

theorem FS.WF.terminal {fs : FS} (h : fs.WF) (t : Rat) (status : Str) : (fs.terminal t status).WF :=
  (h.pub (.pubNote status) rfl).closeAck t (by simp [FS.pub, BFr.isPub])

theorem FS.WF.request {fs : FS} (h : fs.WF) (t : Rat) (timedOut : Bool) : (fs.request t timedOut).WF := by
  have h1 := (h.pub (.pubReq fs.next (fs.hold.getLastD 0)) rfl).closeKeep t
  cases timedOut
  · refine FS.WF.deliverNow ?_ _
    exact h1.congr rfl rfl rfl rfl rfl rfl
  · exact h1.congr rfl rfl rfl rfl rfl rfl

theorem FS.WF.pushLevel {fs : FS} (h : fs.WF) (mc : Nat) : (fs.pushLevel mc).WF :=
  h.congr rfl rfl rfl rfl rfl (by simp [FS.pushLevel, FS.allTails, List.flatMap_cons])

theorem FS.WF.visit {fs : FS} (h : fs.WF) (k : Tok) : (fs.visit k).WF := h.congr rfl rfl rfl rfl rfl rfl
theorem FS.WF.failTok {fs : FS} (h : fs.WF) : fs.failTok.WF := h.congr rfl rfl rfl rfl rfl rfl

theorem pubBranches_isPub (base lo : Nat) (path : List Nat) (i : Nat) (names : List Str) :
    ∀ f ∈ FS.pubBranches base lo path i names, f.isPub = true := by
  induction names generalizing i with
  | nil => exact fun _ h => nomatch h
  | cons n ns ih => exact List.forall_mem_cons.mpr ⟨rfl, ih (i + 1)⟩

theorem FS.WF.launch {fs : FS} (h : fs.WF) (t : Rat) (names : List Str) : (fs.launch t names).WF := by
  unfold FS.launch
  split
  · exact h
  · rename_i hne
    have hpub := pubBranches_isPub fs.next fs.lvl.fins.length fs.lvl.path 0 names
    refine ((h.pubs _ (fun f hf => hpub f (List.mem_reverse.mp hf))).closeAck t ?_).congr rfl rfl rfl rfl rfl rfl
    -- the first branch's event
    cases names with
    | nil => simp at hne
    | cons n ns => simp [FS.pubBranches, BFr.isPub]

theorem FS.WF.startBranch {fs : FS} (h : fs.WF) : fs.startBranch.WF := by
  refine FS.WF.deliverHold ?_ _
  exact h.congr rfl rfl rfl rfl rfl rfl

theorem FS.WF.endBranch {fs : FS} (h : fs.WF) (t : Rat) (failed : Bool) : (fs.endBranch t failed).WF := by
  have hok : ∀ f ∈ (fs.endBranch t failed).allTails, f.Ok := by
    intro f hf
    simp only [FS.endBranch, FS.allTails, List.mem_append, List.mem_singleton] at hf
    rcases hf with (h1 | rfl) | h1
    · exact h.tailOk f (List.mem_append_left _ h1)
    · refine ⟨h.openNoAck, fun x => ?_⟩
      have := h.thread x
      cases fs.rel <;> simp [List.count_append] <;> omega
    · exact h.tailOk f (List.mem_append_right _ h1)
  refine .of_closed (h.closed.congr fun x => ?_) noAck_nil hok (fun _ => rfl)
  simp only [FS.endBranch, FS.allTails, tsum_append, tsum_cons, tsum_nil, List.count_nil]
  omega

/-- the last steps of the branches `ts` are closed (each publishing `ex` first): what they hold stays outstanding -/
theorem Closed.closeWith (ex : Tail → List BFr) (hex : ∀ f, ∀ g ∈ ex f, g.isPub = true) (ts : List Tail)
    {steps : List BStep} {base : Nat → Nat}
    (h : Closed steps (fun t => base t + tsum (fun f => f.owed.count t) ts)) (hok : ∀ f ∈ ts, f.Ok) :
    Closed (FS.closeWith ex ts steps) (fun t => base t + tsum (fun f => f.hold.count t) ts) := by
  induction ts generalizing steps base with
  | nil => exact h
  | cons f ts ih =>
    obtain ⟨⟨hn, ht⟩, hts⟩ := List.forall_mem_cons.mp hok
    have h1 : Closed (FS.closeFin f (ex f) steps)
        (fun t => (base t + f.hold.count t) + tsum (fun g => g.owed.count t) ts) :=
      h.close f.t f.now true (noAck_append.mpr ⟨noAck_reverse.mpr hn, pubs_noAck (hex f)⟩)
        (fun x => by
          have := ht x
          simp only [tsum_cons, dlv_append, pubs_dlv (hex f), List.append_nil, dlv_count_reverse]
          omega)
        nofun
    exact (ih h1 hts).congr (fun t => by simp only [tsum_cons]; omega)

theorem latest_none {l : List Tail} (h : FS.latest l = none) : l = [] := by
  cases l with
  | nil => rfl
  | cons f fs =>
    simp only [FS.latest] at h
    split at h
    · cases h
    · split at h <;> cases h

theorem FS.WF.popLevel {fs : FS} (h : fs.WF) (hf : fs.lvl.fins = []) : (FS.popLevel fs).WF := by
  unfold FS.popLevel
  split
  · rename_i ho
    exact h.congr rfl rfl rfl rfl rfl (by simp [FS.allTails, hf, ho])
  · rename_i ho
    exact h.congr rfl rfl rfl rfl rfl (by simp [FS.allTails, hf, ho, List.flatMap_cons])

theorem noAck_flatMap {l : List Tail} : noAck (l.flatMap (·.frames)) ↔ ∀ f ∈ l, noAck f.frames := List.forall_mem_flatMap

/-- the last steps of those branches of this level that are not in `p` are closed: what they hold stays outstanding, as does
what the branches in `p` and those of the enclosing levels owe -/
theorem FS.WF.closeFins {fs : FS} (h : fs.WF) (ex : Tail → List BFr) (hex : ∀ f, ∀ g ∈ ex f, g.isPub = true) (p : Tail → Bool) :
    Closed (FS.closeWith ex (fs.lvl.fins.filter (fun f => !p f)) fs.steps) (fun x => fs.owed.count x +
      tsum (fun f => f.owed.count x) (fs.lvl.fins.filter p) + tsum (fun f => f.owed.count x) (fs.outer.flatMap (·.fins)) +
      tsum (fun f => f.hold.count x) (fs.lvl.fins.filter (fun f => !p f))) :=
  Closed.closeWith ex hex _
    (h.closed.congr fun x => by
      have := tsum_filter (fun f => f.owed.count x) p fs.lvl.fins
      simp only [FS.allTails, tsum_append]
      omega)
    (fun f hf => h.tailOk f (List.mem_append_left _ (List.mem_filter.mp hf).1))

theorem FS.WF.joinOn {fs : FS} (h : fs.WF) (c : Tail) (tie : Bool) : (fs.joinOn c tie).WF := by
  have hsub : ∀ f ∈ fs.lvl.fins.filter (fun f => f.slot == c.slot), f ∈ fs.allTails :=
    fun f hf => List.mem_append_left _ (List.mem_filter.mp hf).1
  have hout : ∀ f ∈ fs.outer.flatMap (·.fins), f ∈ fs.allTails := fun f hf => List.mem_append_right _ hf
  -- the branches of this level: those in `c`'s slot go on, the last steps of the rest are closed
  have hco := h.closeFins (fun _ => []) (fun _ _ h => nomatch h) (fun f => f.slot == c.slot)
  unfold FS.joinOn
  refine FS.WF.popLevel (.of_closed (hco.congr fun x => ?_) ?_ (fun f hf => h.tailOk f (hout f hf)) fun x => ?_) rfl
  · simp only [FS.allTails, List.nil_append, List.count_append, count_flatMap]
    omega
  · exact noAck_append.mpr ⟨noAck_flatMap.mpr (fun f hf => h.tailsNoAck f (hsub f hf)), h.openNoAck⟩
  · -- what the branches that go on account for is the thread's now; what the rest holds is owed and held
    have h1 := h.thread x
    have h2 := tsum_filter (fun f => f.hold.count x) (fun f => f.slot == c.slot) fs.lvl.fins
    have h3 : tsum (fun f => f.hold.count x + f.now.count x) (fs.lvl.fins.filter (fun f => f.slot == c.slot)) =
        tsum (fun f => f.owed.count x + (dlv f.frames).count x) (fs.lvl.fins.filter (fun f => f.slot == c.slot)) :=
      tsum_congr (fun f hf => h.tails f (hsub f hf) x)
    rw [tsum_add, tsum_add] at h3
    simp only [List.count_append, count_flatMap, dlv_append, dlv_flatMap_count]
    omega

theorem FS.WF.join {fs : FS} (h : fs.WF) (failed : Bool) : (fs.join failed).WF := by
  unfold FS.join
  simp only
  split
  · rename_i hco
    -- nothing to go on with: no branch has ended
    have hor : ∀ (o d : Option Tail), (match o with | some f => some f | none => d) = none → d = none := by
      intro o d e
      cases o with
      | none => exact e
      | some f => cases e
    have hf : fs.lvl.fins = [] := by
      cases failed
      · exact latest_none (hor _ _ hco)
      · exact latest_none (hor _ _ (hor _ _ hco))
    exact (h.popLevel hf).congr rfl rfl rfl rfl rfl rfl
  · exact h.joinOn _ _

theorem FS.WF.batchOn {fs : FS} (h : fs.WF) (t : Rat) (name : Str) (names : List Str) (c : Tail) (tie : Bool) :
    (fs.batchOn t name names c tie).WF := by
  -- the last steps of the batch (`p`: the earlier batches) are closed, the one in `c`'s slot publishing the re-entry event
  have hco := h.closeFins (fun f => if f.slot = c.slot then [BFr.pubEv fs.next name fs.lvl.path] else [])
    (fun f g hg => by split at hg <;> simp_all [BFr.isPub]) (fun f => !decide (fs.lvl.lo ≤ f.slot))
  simp only [Bool.not_not] at hco
  -- they only hold from now on
  have hok : ∀ g ∈ fs.lvl.fins.map (fun f => if fs.lvl.lo ≤ f.slot then FS.holding f else f) ++
      fs.outer.flatMap (·.fins), g.Ok := by
    intro g hg
    simp only [List.mem_append, List.mem_map] at hg
    rcases hg with ⟨f, hf, rfl⟩ | hg
    · split
      · exact ⟨noAck_nil, fun _ => rfl⟩
      · exact h.tailOk f (List.mem_append_left _ hf)
    · exact h.tailOk g (List.mem_append_right _ hg)
  unfold FS.batchOn
  refine FS.WF.launch (FS.WF.closeKeep (FS.WF.deliverHold ?_ _) _) _ _
  refine .of_closed (hco.congr fun x => ?_) h.openNoAck hok h.thread
  have := tsum_map_if (fun f => f.owed.count x) (fun f => decide (fs.lvl.lo ≤ f.slot)) FS.holding fs.lvl.fins
  simp only [decide_eq_true_eq] at this
  simp only [FS.allTails, tsum_append]
  rw [this]
  simp only [FS.holding]
  omega

theorem FS.WF.batch {fs : FS} (h : fs.WF) (t : Rat) (name : Str) (names : List Str) : (fs.batch t name names).WF := by
  unfold FS.batch
  simp only
  split
  · exact h
  · exact h.batchOn _ _ _ _ _

end Asl
