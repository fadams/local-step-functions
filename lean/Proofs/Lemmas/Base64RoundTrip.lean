/-
The Base64 round trip of `States.Base64Encode` / `States.Base64Decode` through the strict decoders: every `Char`
is a Unicode scalar value, which is exactly what strict UTF-8 decoding demands of the four length classes, and
bytes survive base64 in all three padding cases.
-/
import AslModel.Intrinsic
import Proofs.Lemmas.Scan
namespace Asl

theorem utf8Dec_one (a : Nat) (r : List Nat) (h : a < 128) :
    utf8Dec (a :: r) = (utf8Dec r).map (Char.ofNat a :: ·) := by
  rw [utf8Dec.eq_def]; simp only [h, if_true]

/-! The decoder on a lead byte `192 + x` / `224 + x` / `240 + x` and continuation bytes
`128 + y`: stated on the payloads, so that no truncated subtraction is left for `omega`. -/

theorem isCont_add (y : Nat) (h : y < 64) : isCont (128 + y) = true := by
  simp only [isCont, Bool.and_eq_true, decide_eq_true_eq]; omega

theorem utf8Dec_two (x y : Nat) (r : List Nat) (hx : x < 32) (hy : y < 64) (hn : 128 ≤ x * 64 + y) :
    utf8Dec ((192 + x) :: (128 + y) :: r) = (utf8Dec r).map (Char.ofNat (x * 64 + y) :: ·) := by
  rw [utf8Dec.eq_def]
  simp [show ¬ 192 + x < 128 by omega, show 192 + x < 224 by omega, isCont_add y hy, hn]

theorem utf8Dec_three (x y z : Nat) (r : List Nat) (hx : x < 16) (hy : y < 64) (hz : z < 64)
    (hn : 2048 ≤ x * 4096 + y * 64 + z)
    (hs : ¬ (55296 ≤ x * 4096 + y * 64 + z ∧ x * 4096 + y * 64 + z < 57344)) :
    utf8Dec ((224 + x) :: (128 + y) :: (128 + z) :: r) =
      (utf8Dec r).map (Char.ofNat (x * 4096 + y * 64 + z) :: ·) := by
  rw [utf8Dec.eq_def]
  simp [show ¬ 224 + x < 128 by omega, show ¬ 224 + x < 224 by omega, show 224 + x < 240 by omega,
    isCont_add, hy, hz, hn, hs]

theorem utf8Dec_four (x y z w : Nat) (r : List Nat) (hx : x < 8) (hy : y < 64) (hz : z < 64)
    (hw : w < 64) (hn : 65536 ≤ x * 262144 + y * 4096 + z * 64 + w)
    (hm : x * 262144 + y * 4096 + z * 64 + w < 1114112) :
    utf8Dec ((240 + x) :: (128 + y) :: (128 + z) :: (128 + w) :: r) =
      (utf8Dec r).map (Char.ofNat (x * 262144 + y * 4096 + z * 64 + w) :: ·) := by
  rw [utf8Dec.eq_def]
  simp [show ¬ 240 + x < 128 by omega, show ¬ 240 + x < 224 by omega, show ¬ 240 + x < 240 by omega,
    show 240 + x < 248 by omega, isCont_add, hy, hz, hw, hn, hm]

theorem utf8Dec_utf8 (c : Char) (rest : List Nat) :
    utf8Dec (utf8 c ++ rest) = (utf8Dec rest).map (c :: ·) := by
  have hv := char_scalar c
  have hc : Char.ofNat c.toNat = c := Char.ofNat_toNat c
  unfold utf8
  generalize c.toNat = n at hv hc
  have m64 (k : Nat) : k % 64 < 64 := Nat.mod_lt _ (by decide)
  by_cases h1 : n < 128
  · simp only [h1, if_true, List.cons_append, List.nil_append]
    rw [utf8Dec_one _ _ h1, hc]
  by_cases h2 : n < 2048
  · have e : n / 64 * 64 + n % 64 = n := Nat.div_add_mod' n 64
    simp only [h1, h2, if_true, if_false, List.cons_append, List.nil_append]
    rw [utf8Dec_two _ _ _ (by omega) (m64 _) (by rw [e]; omega), e, hc]
  by_cases h3 : n < 65536
  · have e : n / 4096 * 4096 + n / 64 % 64 * 64 + n % 64 = n := by omega
    simp only [h1, h2, h3, if_true, if_false, List.cons_append, List.nil_append]
    rw [utf8Dec_three _ _ _ _ (by omega) (m64 _) (m64 _) (by rw [e]; omega) (by rw [e]; omega), e, hc]
  · have e : n / 262144 * 262144 + n / 4096 % 64 * 4096 + n / 64 % 64 * 64 + n % 64 = n := by omega
    simp only [h1, h2, h3, if_false, List.cons_append, List.nil_append]
    rw [utf8Dec_four _ _ _ _ _ (by omega) (m64 _) (m64 _) (m64 _) (by rw [e]; omega)
      (by rw [e]; omega), e, hc]

theorem utf8Dec_utf8Str (s : Str) : utf8Dec (utf8Str s) = some s := by
  induction s with
  | nil => simp [utf8Str, utf8Dec]
  | cons c cs ih => simp only [utf8Str, utf8Dec_utf8, ih, Option.map_some]

theorem utf8_lt (c : Char) : ∀ b ∈ utf8 c, b < 256 := by
  have hv := char_scalar c
  fun_cases utf8 c
  all_goals
    simp only [List.mem_cons, List.not_mem_nil, or_false, forall_eq_or_imp, forall_eq]
    omega

theorem utf8Str_lt (s : Str) : ∀ b ∈ utf8Str s, b < 256 := by
  induction s with
  | nil => simp [utf8Str]
  | cons c cs ih =>
    simp only [utf8Str, List.forall_mem_append]
    exact ⟨utf8_lt c, ih⟩

theorem b64Val_b64Char : ∀ n, n < 64 → b64Val (b64Char n) = some n := by decide
theorem b64Char_ne_pad : ∀ n, n < 64 → b64Char n ≠ '=' := by decide

/-! The decoder's patterns overlap, so the equation for a later pattern asks that the earlier ones do not
apply: the character in a padding position is not `=`. -/

theorem b64Dec_group (a b c d : Char) (rest : Str) (x y z w : Nat)
    (ha : b64Val a = some x) (hb : b64Val b = some y) (hc : b64Val c = some z)
    (hd : b64Val d = some w) (hne : d ≠ '=') :
    b64Dec (a :: b :: c :: d :: rest) =
      (b64Dec rest).map (fun t => (x * 4 + y / 16) :: (y % 16 * 16 + z / 4) :: (z % 4 * 64 + w) :: t) := by
  rw [b64Dec]
  · simp only [ha, hb, hc, hd]
  all_goals simp [hne]

theorem b64Dec_pad1 (a b c : Char) (x y z : Nat)
    (ha : b64Val a = some x) (hb : b64Val b = some y) (hc : b64Val c = some z) (hne : c ≠ '=') :
    b64Dec [a, b, c, '='] = some [x * 4 + y / 16, y % 16 * 16 + z / 4] := by
  rw [b64Dec]
  · simp only [ha, hb, hc]
  all_goals simp [hne]

theorem b64Dec_pad2 (a b : Char) (x y : Nat)
    (ha : b64Val a = some x) (hb : b64Val b = some y) :
    b64Dec [a, b, '=', '='] = some [x * 4 + y / 16] := by
  rw [b64Dec]
  simp only [ha, hb]

/-- Three bytes cut into four sextets and put together again.  Each sextet is
`high * k + low` with `low < k`, which division and remainder by `k` take apart. -/
theorem sextets (a b c : Nat) (ha : a < 256) (hb : b < 256) (hc : c < 256) :
    (a / 4 < 64 ∧ a % 4 * 16 + b / 16 < 64 ∧ b % 16 * 4 + c / 64 < 64 ∧ c % 64 < 64) ∧
    a / 4 * 4 + (a % 4 * 16 + b / 16) / 16 = a ∧
    (a % 4 * 16 + b / 16) % 16 * 16 + (b % 16 * 4 + c / 64) / 4 = b ∧
    (b % 16 * 4 + c / 64) % 4 * 64 + c % 64 = c := by
  have split (x y k : Nat) (hy : y < k) : (x * k + y) / k = x ∧ (x * k + y) % k = y := by
    rw [Nat.mul_comm, Nat.mul_add_div (by omega), Nat.mul_add_mod, Nat.div_eq_of_lt hy,
      Nat.mod_eq_of_lt hy]
    exact ⟨rfl, rfl⟩
  refine ⟨by omega, ?_⟩
  obtain ⟨h1, h2⟩ := split (a % 4) (b / 16) 16 (by omega)
  obtain ⟨h3, h4⟩ := split (b % 16) (c / 64) 4 (by omega)
  rw [h1, h2, h3, h4]
  exact ⟨Nat.div_add_mod' a 4, Nat.div_add_mod' b 16, Nat.div_add_mod' c 64⟩

theorem b64_roundtrip (bs : List Nat) (h : ∀ b ∈ bs, b < 256) : b64Dec (b64Enc bs) = some bs := by
  fun_induction b64Enc bs with
  | case1 => simp [b64Dec]
  | case2 a =>
    have hs := sextets a 0 0 (h a (by simp)) (by decide) (by decide)
    simp only [Nat.zero_div, Nat.add_zero] at hs
    obtain ⟨⟨l1, l2, _⟩, e1, _⟩ := hs
    rw [b64Dec_pad2 _ _ _ _ (b64Val_b64Char _ l1) (b64Val_b64Char _ l2), e1]
  | case3 a b =>
    have hs := sextets a b 0 (h a (by simp)) (h b (by simp)) (by decide)
    simp only [Nat.zero_div, Nat.add_zero] at hs
    obtain ⟨⟨l1, l2, l3, _⟩, e1, e2, _⟩ := hs
    rw [b64Dec_pad1 _ _ _ _ _ _ (b64Val_b64Char _ l1) (b64Val_b64Char _ l2) (b64Val_b64Char _ l3)
      (b64Char_ne_pad _ l3), e1, e2]
  | case4 a b c rest ih =>
    obtain ⟨⟨l1, l2, l3, l4⟩, e1, e2, e3⟩ :=
      sextets a b c (h a (by simp)) (h b (by simp)) (h c (by simp))
    rw [b64Dec_group _ _ _ _ _ _ _ _ _ (b64Val_b64Char _ l1) (b64Val_b64Char _ l2)
      (b64Val_b64Char _ l3) (b64Val_b64Char _ l4) (b64Char_ne_pad _ l4),
      ih (fun x hx => h x (by simp [hx])), Option.map_some, e1, e2, e3]

theorem base64_utf8_roundtrip (s : Str) :
    (b64Dec (b64Enc (utf8Str s))).bind utf8Dec = some s := by
  rw [b64_roundtrip _ (utf8Str_lt s)]
  exact utf8Dec_utf8Str s

theorem fnBase64_roundtrip (s : Str) :
    fnBase64Encode [.str s] = .ok (.str (b64Enc (utf8Str s))) ∧
    fnBase64Decode [.str (b64Enc (utf8Str s))] = .ok (.str s) := by
  refine ⟨rfl, ?_⟩
  simp only [fnBase64Decode, b64_roundtrip _ (utf8Str_lt s), utf8Dec_utf8Str]

/-! ### the model agrees with RFC 4648 / `base64.b64encode(s.encode())` on samples -/

example : b64Enc (utf8Str "héllo€😀".toList) = "aMOpbGxv4oKs8J+YgA==".toList := by
  rw [String.toList_ofList, String.toList_ofList]
  decide +kernel
example : b64Enc (utf8Str "a".toList) = "YQ==".toList := by decide +kernel
example : b64Enc (utf8Str "ab".toList) = "YWI=".toList := by decide +kernel
example : b64Enc (utf8Str "abc".toList) = "YWJj".toList := by decide +kernel
example : b64Enc (utf8Str [Char.ofNat 1114111, Char.ofNat 55295]) = "9I+/v+2fvw==".toList := by
  decide +kernel
/-- the decoder is strict: bad length, bad alphabet, inner padding, overlong UTF-8, surrogates -/
example : b64Dec "YWJ".toList = none ∧ b64Dec "YW*j".toList = none ∧
    b64Dec "YQ==YWJj".toList = none ∧ utf8Dec [192, 128] = none ∧
    utf8Dec [237, 160, 128] = none := by decide +kernel

end Asl
