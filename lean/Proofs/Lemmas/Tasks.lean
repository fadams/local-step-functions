/- For C15: the cancel cascade as a closure of elementary steps, and the potential function behind "at most once".
(AslModel/Tasks.lean has an association list of its own — `aSet` deletes and appends, that of AslModel/Store.lean replaces in
place —, hence its laws here and in Lemmas/Store.lean.) -/
import AslModel.Tasks
import Proofs.Lemmas.Names
import Proofs.Lemmas.Base64RoundTrip
namespace Asl.Tasks

theorem aGet_aDel {α : Type} (l : List (Str × α)) (k k' : Str) :
    aGet (aDel l k) k' = if k' = k then none else aGet l k' := by
  fun_induction aDel l k <;> grind [aGet]

theorem aGet_append {α : Type} (a b : List (Str × α)) (k : Str) :
    aGet (a ++ b) k = (aGet a k).or (aGet b k) := by
  fun_induction aGet a k <;> simp_all [aGet]

theorem aGet_aSet {α : Type} (l : List (Str × α)) (k k' : Str) (v : α) :
    aGet (aSet l k v) k' = if k' = k then some v else aGet l k' := by
  rw [aSet, aGet_append, aGet_aDel]
  split <;> simp_all [aGet, eq_comm]

theorem aDel_of_none {α : Type} (l : List (Str × α)) (k : Str) (h : aGet l k = none) : aDel l k = l := by
  fun_induction aDel l k <;> simp_all [aGet]

theorem mem_of_aGet {α : Type} (l : List (Str × α)) (k : Str) (v : α) (h : aGet l k = some v) :
    (k, v) ∈ l := by
  fun_induction aGet l k <;> simp_all

theorem mem_keysFor (cs : List (Str × Canc)) (k : Str) (c : Canc) (h : aGet cs k = some c) :
    k ∈ keysFor cs c.exec := by
  simp only [keysFor, List.mem_map, List.mem_filter]
  exact ⟨(k, c), ⟨mem_of_aGet _ _ _ h, by simp⟩, rfl⟩

theorem cancelTask_none (n : Nat) (d : Disp) (e : Str) (h : aGet d.cancellers e = none) :
    cancelTask n d e = d := by
  cases n with
  | zero => rfl
  | succ n => unfold cancelTask; rw [h]

theorem cancelTask_stepFunction (n : Nat) (d : Disp) (e : Str) (c : Canc) (hc : aGet d.cancellers e = some c)
    (hs : c.type = .stepFunction) :
    cancelTask (n + 1) d e =
      (keysFor (cancelOne d e c).cancellers c.taskId).foldl (cancelTask n) (cancelOne d e c) := by
  rw [cancelTask, hc]
  simp only [hs, if_true]

theorem cancelReq_pending (d : Disp) (k : Str) : (cancelReq d k).pending = aDel d.pending k := by
  fun_cases cancelReq d k
  · rfl
  · exact (aDel_of_none _ _ ‹_›).symm

theorem cancelReq_cancellers (d : Disp) (k : Str) : (cancelReq d k).cancellers = d.cancellers := by
  unfold cancelReq
  split <;> rfl

theorem cancelOne_cancellers (d : Disp) (e : Str) (c : Canc) :
    (cancelOne d e c).cancellers = aDel d.cancellers e := by
  fun_cases cancelOne d e c
  · rfl
  · exact cancelReq_cancellers _ _

theorem cancelOne_pending (d : Disp) (e : Str) (c : Canc) :
    (cancelOne d e c).pending = if c.type = .timeout then d.pending else aDel d.pending c.taskId := by
  fun_cases cancelOne d e c
  · exact (if_pos ‹_›).symm
  · rw [if_neg ‹_›, cancelReq_pending]; rfl

theorem cancelOne_cases (d : Disp) (e : Str) (c : Canc) :
    cancelOne d e c = { dropCanc d e with log := d.log ++ [⟨e, c.taskId, .waitCancel, terminated⟩] } ∨
    (∃ r, aGet d.pending c.taskId = some r ∧
      cancelOne d e c = { dropCanc d e with pending := aDel d.pending c.taskId,
                                            log := d.log ++ [⟨r.owner, c.taskId, .cancel, terminated⟩] }) ∨
    cancelOne d e c = dropCanc d e := by
  fun_cases cancelOne d e c
  · exact .inl rfl
  · fun_cases cancelReq (dropCanc d e) c.taskId
    · exact .inr (.inl ⟨_, ‹_›, rfl⟩)
    · exact .inr (.inr rfl)

def hasKey (p : List (Str × Req)) (cid : Str) : Nat := if (aGet p cid).isSome then 1 else 0

/-- completions logged under `cid` plus one if `cid` is still pending -/
def phi (cid : Str) (d : Disp) : Nat := countKey cid d.log + hasKey d.pending cid

theorem hasKey_some (p : List (Str × Req)) (cid : Str) (r : Req) (h : aGet p cid = some r) : hasKey p cid = 1 := by
  unfold hasKey; rw [h]; rfl

theorem hasKey_none (p : List (Str × Req)) (cid : Str) (h : aGet p cid = none) : hasKey p cid = 0 := by
  unfold hasKey; rw [h]; rfl

theorem counts_ne (cid : Str) (c : Completion) (h : c.key ≠ cid) : counts cid c = false := by
  simp [counts, h]

theorem countKey_append (cid : Str) (l : List Completion) (c : Completion) :
    countKey cid (l ++ [c]) = countKey cid l + (if counts cid c then 1 else 0) := by
  unfold countKey
  by_cases h : counts cid c = true <;> simp [List.filter, h]

theorem phi_log (cid : Str) (d : Disp) (c : Completion) :
    phi cid { d with log := d.log ++ [c] } = phi cid d + if counts cid c then 1 else 0 := by
  simp only [phi, countKey_append]
  exact Nat.add_right_comm _ _ _

theorem phi_resolve (cid : Str) (d : Disp) (k : Str) (r : Req) (c : Completion) (hk : c.key = k)
    (hp : aGet d.pending k = some r) :
    phi cid { d with pending := aDel d.pending k, log := d.log ++ [c] } ≤ phi cid d := by
  simp only [phi, hasKey, countKey_append, aGet_aDel]
  by_cases h : cid = k
  · subst h
    simp only [hp, if_true, Option.isSome_none, Option.isSome_some]
    split <;> simp
  · simp [h, counts_ne cid c (hk ▸ Ne.symm h)]

/-- what a cancel cascade does to the state: it logs cancellations only, raises no correlation id's potential, adds
no request and no canceller, and a task's canceller stays as it is or goes together with the task's request -/
structure Cascade (a b : Disp) : Prop where
  log : ∃ extra, b.log = a.log ++ extra ∧ ∀ c ∈ extra, c.via = .cancel ∨ c.via = .waitCancel
  potential : ∀ cid, phi cid b ≤ phi cid a
  pending : ∀ k, aGet a.pending k = none → aGet b.pending k = none
  cancellers : ∀ k, aGet a.cancellers k = none → aGet b.cancellers k = none
  task : ∀ k c, aGet a.cancellers k = some c → c.type ≠ .timeout →
    aGet b.cancellers k = some c ∨ (aGet b.cancellers k = none ∧ aGet b.pending c.taskId = none)

theorem Cascade.refl (d : Disp) : Cascade d d :=
  ⟨⟨[], by simp, by simp⟩, fun _ => Nat.le_refl _, fun _ h => h, fun _ h => h, fun _ _ h _ => .inl h⟩

theorem Cascade.trans {a b c : Disp} (h1 : Cascade a b) (h2 : Cascade b c) : Cascade a c where
  log := by
    obtain ⟨x, hx, hx'⟩ := h1.log
    obtain ⟨y, hy, hy'⟩ := h2.log
    exact ⟨x ++ y, by rw [hy, hx, List.append_assoc], fun c hc => (List.mem_append.mp hc).elim (hx' c) (hy' c)⟩
  potential cid := Nat.le_trans (h2.potential cid) (h1.potential cid)
  pending k h := h2.pending k (h1.pending k h)
  cancellers k h := h2.cancellers k (h1.cancellers k h)
  task k x hx ht := by
    rcases h1.task k x hx ht with h | ⟨h, h'⟩
    · exact h2.task k x h ht
    · exact .inr ⟨h2.cancellers k h, h2.pending _ h'⟩

theorem Cascade.gone {a b : Disp} (h : Cascade a b) {k : Str} {c : Canc} (hk : aGet a.cancellers k = some c)
    (ht : c.type ≠ .timeout) (hb : aGet b.cancellers k = none) : aGet b.pending c.taskId = none := by
  rcases h.task k c hk ht with h' | ⟨_, h'⟩
  · rw [hb] at h'; cases h'
  · exact h'

theorem cascade_cancelOne (d : Disp) (e : Str) (c : Canc) (hc : aGet d.cancellers e = some c) :
    Cascade d (cancelOne d e c) where
  log := by
    rcases cancelOne_cases d e c with h | ⟨r, _, h⟩ | h
    · rw [h]
      exact ⟨[_], rfl, by simp⟩
    · rw [h]
      exact ⟨[_], rfl, by simp⟩
    · rw [h]
      exact ⟨[], by simp [dropCanc], by simp⟩
  potential cid := by
    rcases cancelOne_cases d e c with h | ⟨r, hr, h⟩ | h
    · -- a cancelled Wait: logged as waitCancel, which is not counted
      have hl := phi_log cid (dropCanc d e) ⟨e, c.taskId, .waitCancel, terminated⟩
      simp only [counts, bne_self_eq_false, Bool.and_false] at hl
      rw [h]
      exact Nat.le_of_eq hl
    · rw [h]
      exact phi_resolve cid (dropCanc d e) c.taskId r _ rfl hr
    · rw [h]
      exact Nat.le_refl _
  pending k h := by
    rw [cancelOne_pending]
    split <;> simp [aGet_aDel, h]
  cancellers k h := by simp [cancelOne_cancellers, aGet_aDel, h]
  task k x hx ht := by
    simp only [cancelOne_cancellers, cancelOne_pending, aGet_aDel]
    by_cases hk : k = e
    · subst hk
      rw [hc] at hx
      cases hx
      simp [ht, aGet_aDel]
    · simp [hk, hx]

theorem cascade_foldl (f : Disp → Str → Disp) (hf : ∀ d e, Cascade d (f d e)) :
    ∀ (l : List Str) (d : Disp), Cascade d (l.foldl f d)
  | [], d => .refl d
  | a :: t, d => (hf d a).trans (cascade_foldl f hf t (f d a))

theorem cascade_cancelTask : ∀ (n : Nat) (d : Disp) (e : Str), Cascade d (cancelTask n d e)
  | 0, d, _ => .refl d
  | n + 1, d, e => by
    unfold cancelTask
    split
    · exact .refl d
    · rename_i c hc
      split
      · exact (cascade_cancelOne d e c hc).trans (cascade_foldl _ (cascade_cancelTask n) _ _)
      · exact cascade_cancelOne d e c hc

theorem cancelTask_removes (n : Nat) (d : Disp) (e : Str) : aGet (cancelTask (n + 1) d e).cancellers e = none := by
  unfold cancelTask
  split
  · rename_i h; exact h
  · rename_i c hc
    have h1 : aGet (cancelOne d e c).cancellers e = none := by simp [cancelOne_cancellers, aGet_aDel]
    split
    · exact (cascade_foldl _ (cascade_cancelTask n) _ _).cancellers e h1
    · exact h1

theorem foldl_removes (n : Nat) (k : Str) : ∀ (l : List Str) (d : Disp), k ∈ l →
    aGet (l.foldl (cancelTask (n + 1)) d).cancellers k = none := by
  intro l
  induction l with
  | nil => intro d h; cases h
  | cons a t ih =>
    intro d h
    by_cases hk : k = a
    · subst hk
      exact (cascade_foldl _ (cascade_cancelTask (n + 1)) t _).cancellers k (cancelTask_removes n d k)
    · exact ih _ ((List.mem_cons.mp h).resolve_left hk)

/-- `on_response` costs the completion it logs; the cascade that may follow costs nothing -/
theorem phi_complete (cid : Str) (d : Disp) (c : Completion) :
    phi cid (complete d c) ≤ phi cid { d with log := d.log ++ [c] } := by
  fun_cases complete d c
  · exact Nat.le_refl _
  · exact Cascade.potential (cascade_cancelTask _ _ _) cid

theorem phi_complete_resolve (cid : Str) (d : Disp) (k : Str) (r : Req) (c : Completion) (hk : c.key = k)
    (hp : aGet d.pending k = some r) :
    phi cid (complete { d with pending := aDel d.pending k } c) ≤ phi cid d :=
  Nat.le_trans (phi_complete cid _ c) (phi_resolve cid d k r c hk hp)

theorem phi_complete_other (cid : Str) (d : Disp) (c : Completion) (h : c.key ≠ cid) :
    phi cid (complete d c) ≤ phi cid d := by
  have := phi_complete cid d c
  rwa [phi_log, counts_ne cid c h] at this

theorem complete_spec (d : Disp) (c : Completion) :
    (∃ extra, (complete d c).log = d.log ++ c :: extra ∧ ∀ x ∈ extra, x.via = .cancel ∨ x.via = .waitCancel) ∧
    (∀ k, aGet d.pending k = none → aGet (complete d c).pending k = none) := by
  fun_cases complete d c
  · exact ⟨⟨[], rfl, by simp⟩, fun _ h => h⟩
  · have h := cascade_cancelTask (Disp.fuel { d with log := d.log ++ [c] }) { d with log := d.log ++ [c] } c.owner
    obtain ⟨extra, he, hv⟩ := h.log
    exact ⟨⟨extra, by rw [he]; simp, hv⟩, h.pending⟩

theorem phi_onReply (q : Quirks) (cid : Str) (d : Disp) (k : Str) (cb : Option Bool) (body : Json) :
    phi cid (onReply q d k cb body) ≤ phi cid d := by
  fun_cases onReply q d k cb body
  · exact Nat.le_refl _
  · exact Nat.le_refl _
  · exact phi_complete_resolve cid d k _ _ rfl ‹_›
  · exact phi_complete_resolve cid d k _ _ rfl ‹_›

theorem phi_onChildEnd (cid : Str) (d : Disp) (k : Str) (det : Detail) (i o : Json) :
    phi cid (onChildEnd d k det i o) ≤ phi cid d := by
  fun_cases onChildEnd d k det i o
  · exact Nat.le_refl _
  · exact phi_complete_resolve cid d k _ _ rfl ‹_›
  · exact phi_complete_resolve cid d k _ _ rfl ‹_›

theorem phi_onTimeout (cid : Str) (d : Disp) (k : Str) : phi cid (onTimeout d k) ≤ phi cid d := by
  fun_cases onTimeout d k
  · exact Nat.le_refl _
  · exact phi_complete_resolve cid d k _ _ rfl ‹_›

theorem phi_sendTask (cid : Str) (d : Disp) (tok : Str) (s : Bool) (body : Json) :
    phi cid (sendTask Quirks.none d tok s body).2.1 ≤ phi cid d := by
  fun_cases sendTask Quirks.none d tok s body
  · exact Nat.le_refl _
  · exact phi_onReply _ cid d _ _ _
  · -- `statelessTokens` is off
    contradiction
  · exact Nat.le_refl _

theorem phi_launch (cid : Str) (d : Disp) (l : Launch) (si : Json) (h : corrId l ≠ cid) :
    phi cid (launch d l si) ≤ phi cid d := by
  fun_cases launch d l si
  · exact phi_complete_other cid d _ h
  · have hk : l.childArn ≠ cid := by simpa [corrId, ‹l.form = .async›] using h
    exact phi_complete_other cid { d with started := d.started ++ [(l.childArn, true)] } _ hk
  · simp [phi, hasKey, aGet_aSet, h.symm]

theorem phi_step (cid : Str) (d : Disp) (op : Op) (h : op.registers cid = false) :
    phi cid (step Quirks.none d op) ≤ phi cid d := by
  cases op with
  | launch l si => exact phi_launch cid d l si (by simpa [Op.registers] using h)
  | rpc k e x =>
    have : rpcCid k e ≠ cid := by simpa [Op.registers] using h
    simp [step, launchRpc, phi, hasKey, aGet_aSet, this.symm]
  | wait e x => exact Nat.le_refl _
  | reply k cb body => exact phi_onReply _ cid d k cb body
  | childEnd k det i o => exact phi_onChildEnd cid d k det i o
  | timeout k => exact phi_onTimeout cid d k
  | cancel e => exact (cascade_cancelTask _ d e).potential cid
  | send tok s body => exact phi_sendTask cid d tok s body

theorem phi_run (cid : Str) : ∀ (ops : List Op) (d : Disp), (∀ op ∈ ops, op.registers cid = false) →
    phi cid (run Quirks.none d ops) ≤ phi cid d := by
  intro ops
  induction ops with
  | nil => intro d _; exact Nat.le_refl _
  | cons op t ih =>
    intro d h
    exact Nat.le_trans (ih (step Quirks.none d op) (fun o ho => h o (List.mem_cons_of_mem _ ho)))
      (phi_step cid d op (h op List.mem_cons_self))

theorem complete_err_fresh (d : Disp) (o k : Str) (v : Via) (n : Str) (cz : Json)
    (hfresh : aGet d.cancellers o = none) :
    complete d ⟨o, k, v, .err n cz⟩ = { d with log := d.log ++ [⟨o, k, v, .err n cz⟩] } := by
  unfold complete
  exact cancelTask_none _ _ _ hfresh

/-- the state in which the Task state's error path runs after the timeout of request `cid` -/
def timedOut (d : Disp) (cid : Str) (r : Req) : Disp :=
  { d with pending := aDel d.pending cid, log := d.log ++ [⟨r.owner, cid, .timeout, .err sTimeout (.str [])⟩] }

theorem launch_invalid (d : Disp) (l : Launch) (si : Json) (e : Str) (he : validate l = some e) :
    launch d l si = complete d ⟨l.eventId, corrId l, .launch, .err e (.str [])⟩ := by
  rw [launch, he]

theorem launch_async (d : Disp) (l : Launch) (si : Json) (hv : validate l = none) (hf : l.form = .async) :
    launch d l si =
      complete { d with started := d.started ++ [(l.childArn, true)] } ⟨l.eventId, l.childArn, .launch, .ok si⟩ := by
  rw [launch, hv]
  simp only [hf, if_true]

theorem onChildEnd_child (d : Disp) (arn : Str) (r : Req) (f : Form) (det : Detail) (inJ outJ : Json)
    (hp : aGet d.pending arn = some r) (hk : r.kind = .child f) :
    onChildEnd d arn det inJ outJ =
      complete { d with pending := aDel d.pending arn } ⟨r.owner, arn, .childEnd, childOutcome f det inJ outJ⟩ := by
  rw [onChildEnd, hp]
  simp only [hk]

theorem onReply_callback (q : Quirks) (d : Disp) (cid : Str) (r : Req) (s : Bool) (body : Json)
    (hp : aGet d.pending cid = some r) :
    onReply q d cid (some s) body =
      complete { d with pending := aDel d.pending cid } ⟨r.owner, cid, .callback, callbackOutcome q s body⟩ := by
  simp [onReply, hp]

theorem onTimeout_some (d : Disp) (cid : Str) (r : Req) (hp : aGet d.pending cid = some r) :
    onTimeout d cid = cancelTask (d.cancellers.length + 1) (timedOut d cid r) r.owner := by
  unfold onTimeout
  rw [hp]
  rfl

theorem isPrefix_append (a b : Str) : isPrefix a (a ++ b) = true := by
  induction a with
  | nil => rfl
  | cons x xs ih => simp [isPrefix, ih]

theorem endsWith_append (a suf : Str) : endsWith (a ++ suf) suf = true := by
  unfold endsWith
  rw [List.reverse_append]
  exact isPrefix_append _ _

/-- the correlation id holds no separator, so the raw token is cut at the one written between the two parts -/
theorem decodeRaw_rawToken (c q : Str) (hc : ':' ∉ c) :
    decodeRaw (rawToken c q) =
      if q.contains ':' then none
      else if endsWith c wfttSuffix && isPrefix replyFamily q then some (c, q) else none := by
  unfold decodeRaw rawToken
  rw [breakAt_append ':' _ _ hc]

/-- the opaque token is base64 of the UTF-8 text of the raw token, and both layers round-trip -/
theorem decodeToken_encodeToken (c q : Str) : decodeToken (encodeToken c q) = decodeRaw (rawToken c q) := by
  unfold decodeToken encodeToken
  rw [b64_roundtrip _ (utf8Str_lt _)]
  simp only [utf8Dec_utf8Str]

end Asl.Tasks
