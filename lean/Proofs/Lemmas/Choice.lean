/- For C14: the evaluators of the Choice model against the declarative relations (`glob` / `GlobMatch`,
`strLt` / `CodeLt`, `evalCmp` / `Matches`). -/
import AslModel.Choice
namespace Asl.ChoiceLemmas

theorem strLt_iff (a b : Str) : strLt a b = true ↔ CodeLt a b := by
  constructor
  · intro h
    fun_induction strLt a b with
    | case1 => cases h
    | case2 d ds => exact .nil d ds
    | case3 => cases h
    | case4 c cs d ds hlt => exact .head c d cs ds hlt
    | case5 cs d ds _ ih => exact .tail d cs ds (ih h)
    | case6 => cases h
  · intro h
    induction h with
    | nil => rfl
    | head c d cs ds hlt => simp [strLt, hlt]
    | tail c cs ds _ ih => simp [strLt, ih]

theorem codeLt_irrefl (a : Str) : ¬ CodeLt a a := by
  induction a with
  | nil => intro h; cases h
  | cons c cs ih =>
    intro h
    cases h with
    | head _ _ _ _ hlt => exact Nat.lt_irrefl _ hlt
    | tail _ _ _ ht => exact ih ht

theorem evalInt_iff (r : Rel) (a b : Int) : r.evalInt a b = true ↔ r.Holds (· < ·) a b := by
  cases r <;> simp [Rel.evalInt, Rel.Holds] <;> omega

theorem evalStr_iff (r : Rel) (a b : Str) : r.evalStr a b = true ↔ r.Holds CodeLt a b := by
  cases r <;> simp [Rel.evalStr, Rel.Holds, strLt_iff]

theorem anySuffix_iff (f : Str → Bool) (s : Str) :
    anySuffix f s = true ↔ ∃ s1 s2, s = s1 ++ s2 ∧ f s2 = true := by
  induction s with
  | nil => simp [anySuffix, and_assoc]
  | cons c cs ih =>
    simp only [anySuffix, Bool.or_eq_true, ih]
    constructor
    · rintro (h | ⟨s1, s2, rfl, h⟩)
      · exact ⟨[], _, rfl, h⟩
      · exact ⟨c :: s1, s2, rfl, h⟩
    · rintro ⟨s1, s2, hs, h⟩
      cases s1 with
      | nil => exact .inl (hs ▸ h)
      | cons d s1 => cases hs; exact .inr ⟨s1, s2, rfl, h⟩

theorem glob_nil (s : Str) : glob [] s = true ↔ s = [] := by simp [glob]

theorem glob_star (p s : Str) :
    glob ('*' :: p) s = true ↔ ∃ s1 s2, s = s1 ++ s2 ∧ glob p s2 = true := by
  rw [← anySuffix_iff]
  cases p <;> simp [glob]

/-- the condition under which a backslash is an escape -/
def IsEsc (c : Char) (p : Str) : Prop := c = '\\' ∧ ∃ e p', p = e :: p' ∧ (e = '*' ∨ e = '\\')

theorem glob_esc (e : Char) (p s : Str) (he : e = '*' ∨ e = '\\') :
    glob ('\\' :: e :: p) s = true ↔ ∃ s', s = e :: s' ∧ glob p s' = true := by
  cases s <;> simp [glob, he, and_assoc]

theorem glob_lit (c : Char) (p s : Str) (h1 : c ≠ '*') (h2 : ¬ IsEsc c p) :
    glob (c :: p) s = true ↔ ∃ s', s = c :: s' ∧ glob p s' = true := by
  cases p with
  | nil => cases s <;> simp [glob, h1]
  | cons e p' =>
    have : ¬ (c = '\\' ∧ (e = '*' ∨ e = '\\')) := fun h => h2 ⟨h.1, e, p', rfl, h.2⟩
    cases s <;> simp [glob, h1, this, and_assoc]

theorem glob_sound (p s : Str) (h : glob p s = true) : GlobMatch p s := by
  -- by the length of the pattern: an escape takes two characters off it
  induction hn : p.length using Nat.strongRecOn generalizing p s with
  | _ n ih =>
    subst hn
    cases p with
    | nil => exact (glob_nil s).mp h ▸ .nil
    | cons c p =>
      by_cases hstar : c = '*'
      · subst hstar
        obtain ⟨s1, s2, rfl, hf⟩ := (glob_star p s).mp h
        exact .star p s1 s2 (ih _ (by simp) p s2 hf rfl)
      · by_cases hesc : IsEsc c p
        · obtain ⟨rfl, e, p', rfl, he⟩ := hesc
          obtain ⟨s', rfl, hg⟩ := (glob_esc e p' s he).mp h
          have hm := ih _ (by simp only [List.length_cons]; omega) p' s' hg rfl
          rcases he with rfl | rfl
          · exact .escStar p' s' hm
          · exact .escBackslash p' s' hm
        · obtain ⟨s', rfl, hg⟩ := (glob_lit c p s hstar hesc).mp h
          exact .lit c p s' hstar hesc (ih _ (by simp) p s' hg rfl)

theorem glob_complete (p s : Str) (h : GlobMatch p s) : glob p s = true := by
  induction h with
  | nil => exact (glob_nil []).mpr rfl
  | star p s t _ ih => exact (glob_star p _).mpr ⟨s, t, rfl, ih⟩
  | escStar p s _ ih => exact (glob_esc '*' p _ (.inl rfl)).mpr ⟨s, rfl, ih⟩
  | escBackslash p s _ ih => exact (glob_esc '\\' p _ (.inr rfl)).mpr ⟨s, rfl, ih⟩
  | lit c p s h1 h2 _ ih => exact (glob_lit c p _ h1 h2).mpr ⟨s, rfl, ih⟩

theorem evalCmp_iff (c : Cmp) (x k : Json) : evalCmp c x k = true ↔ Matches c x k := by
  constructor
  · -- the two equations of `evalCmp` that give `false` cannot match
    fun_cases evalCmp c x k
    all_goals intro h
    · simp at h; subst h; exact .boolEq _
    · exact .num _ _ _ ((evalInt_iff _ _ _).mp h)
    · exact .str _ _ _ ((evalStr_iff _ _ _).mp h)
    · rename_i ta tb hb ha
      exact .ts _ _ _ ta tb ha hb ((evalInt_iff _ _ _).mp h)
    · cases h
    · exact .glob _ _ (glob_sound _ _ h)
    · cases h
  · intro h
    cases h with
    | boolEq a => simp [evalCmp]
    | num r a b hr => simp [evalCmp, (evalInt_iff r a b).mpr hr]
    | str r a b hr => simp [evalCmp, (evalStr_iff r a b).mpr hr]
    | ts r a b ta tb ha hb hr => simp [evalCmp, ha, hb, (evalInt_iff r _ _).mpr hr]
    | glob p s hg => simp [evalCmp, glob_complete p s hg]

theorem matches_hasType (c : Cmp) (x k : Json) (h : Matches c x k) : HasType c x ∧ HasType c k := by
  cases h with
  | boolEq a => exact ⟨⟨a, rfl⟩, ⟨a, rfl⟩⟩
  | num r a b _ => exact ⟨⟨a, rfl⟩, ⟨b, rfl⟩⟩
  | str r a b _ => exact ⟨⟨a, rfl⟩, ⟨b, rfl⟩⟩
  | ts r a b ta tb ha hb _ => exact ⟨⟨a, ta, rfl, ha⟩, ⟨b, tb, rfl, hb⟩⟩
  | glob p s _ => exact ⟨⟨s, rfl⟩, ⟨p, rfl⟩⟩

theorem isType_iff (t : IsOp) (x : Json) : isType t x = true ↔ TypeFact t x := by
  cases t <;> cases x <;> simp [isType, TypeFact, Option.isSome_iff_exists]

theorem evalAll_eq (e : CEnv) (rs : List Rule) : evalAll e rs = rs.all (evalRule e) := by
  induction rs with
  | nil => rfl
  | cons r rs ih => simp [evalAll, ih]

theorem evalAny_eq (e : CEnv) (rs : List Rule) : evalAny e rs = rs.any (evalRule e) := by
  induction rs with
  | nil => rfl
  | cons r rs ih => simp [evalAny, ih]

theorem firstMatch_eq_find? (e : CEnv) (cs : List (Rule × Str)) :
    firstMatch e cs = (cs.find? fun c => evalRule e c.1).map (·.2) := by
  fun_induction firstMatch e cs <;> simp_all

theorem firstMatch_none_iff (e : CEnv) (cs : List (Rule × Str)) :
    firstMatch e cs = none ↔ ∀ c ∈ cs, evalRule e c.1 = false := by
  simp [firstMatch_eq_find?]

theorem firstMatch_some_iff (e : CEnv) (cs : List (Rule × Str)) (n : Str) :
    firstMatch e cs = some n ↔
      ∃ pre r post, cs = pre ++ (r, n) :: post ∧ (∀ c ∈ pre, evalRule e c.1 = false) ∧
        evalRule e r = true := by
  simp only [firstMatch_eq_find?, Option.map_eq_some_iff, List.find?_eq_some_iff_append]
  constructor
  · rintro ⟨⟨r, _⟩, ⟨hr, pre, post, rfl, hpre⟩, rfl⟩
    exact ⟨pre, r, post, rfl, by simpa using hpre, hr⟩
  · rintro ⟨pre, r, post, rfl, hpre, hr⟩
    exact ⟨(r, n), ⟨hr, pre, post, rfl, by simpa using hpre⟩, rfl⟩

end Asl.ChoiceLemmas
