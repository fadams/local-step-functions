/-
The crash protocol (AslModel/Crash.lean) with all quirks off on *sequences*: Task visits (first attempts and retries), plain
steps and Waits in any order.  `SInv` holds in every configuration reachable by any schedule (the engine dying between handler
invocations or after any number of broker operations inside one), and from there the canonical crash-free run comes to rest with
an empty event queue.  A handler invocation is a *take* — the handler gets the event in hand (`SMid`) — followed by a *put*: the
visit goes on from a timer, waits for its reply, or is over; each put is proved once, for every cut.
-/
import Proofs.Lemmas.CrashHandlers
namespace Asl.Crash

def seqKind : EvKind → Bool
  | .visit t [] _ none => t.seq
  | _ => false

abbrev SeqK (k : EvKind) : Prop := seqKind k = true

structure SInv (c : Cfg) : Prop where
  dur : Dur SeqK c
  vol : VolI c
  nojoin : c.joins = []

theorem seqKind_inv {k : EvKind} (h : seqKind k = true) : ∃ t start, k = .visit t [] start none ∧ t.seq = true := by
  revert h
  fun_cases seqKind k
  · exact fun h => ⟨_, _, rfl, h⟩
  · exact fun h => nomatch h

theorem seq_cases {t : Sk} (h : t.seq = true) : t = .done ∨ (t.isVisit = true ∧ seqKind (.visit t [] false none) = true) := by
  cases t with
  | done => exact .inl rfl
  | task _ _ | step _ | wait _ => exact .inr ⟨rfl, h⟩
  | _ => cases h

theorem task_of_seq {k : EvKind} (hs : seqKind k = true) (ht : isTaskKind k = true) :
    ∃ rc rest start, k = .visit (.task rc rest) [] start none := by
  obtain ⟨t, start, rfl, hseq⟩ := seqKind_inv hs
  cases t <;> simp [isTaskKind, Sk.seq] at ht hseq
  exact ⟨_, _, _, rfl⟩

theorem sinv_init (sk : Sk) (h : sk.seq = true) : SInv (init sk) := by
  refine ⟨?_, ?_, rfl⟩
  · constructor <;> simp [init, evK, rpC]
    show seqKind _ = true
    simpa [seqKind] using h
  · exact VolI.nil rfl rfl rfl rfl rfl rfl rfl

theorem seq_not_opaque {k : EvKind} (h : seqKind k = true) : ∀ s st o, k ≠ .visit .opaque s st o := by
  rintro s st o rfl
  cases s <;> cases o <;> cases h

/-! ### puts -/

/-- `dec`: the condition under which the canonical schedule uses the operation -/
structure Good (c c' : Cfg) (cut : Option Nat) (dec : Prop) : Prop where
  inv : SInv c'
  less : cut = none → dec → mu c' < mu c

theorem Good.weaken {c c' : Cfg} {cut : Option Nat} {p q : Prop} (g : Good c c' cut p) (h : q → p) : Good c c' cut q :=
  ⟨g.inv, fun hc hq => g.less hc (h hq)⟩

theorem SInv.handler {c1 : Cfg} {acts : List Act} {v : Vol} (cut : Option Nat) (hd : Dur SeqK c1) (hok : ok SeqK c1 acts)
    (hj : v.joins = []) (hv : VolI ((acts.foldl Cfg.act c1).withVol v)) : SInv (c1.handler acts v cut) := by
  cases cut with
  | none => exact ⟨hd.handler hok v none, hv, hj⟩
  | some k => exact ⟨hd.handler hok v (some k), VolI.crash _, rfl⟩

theorem good_noop (c : Cfg) (cut : Option Nat) (h : SInv c) : Good c (c.handler [] c.vol cut) cut False :=
  ⟨SInv.handler cut h.dur trivial h.nojoin h.vol, fun _ hf => hf.elim⟩

/-- The handler has the event `m` in hand (and the reply `rp` that completes its Task visit): `c1` is the configuration
whose queues it sees, `v0` the engine's memory with `m` taken out. -/
structure SMid (c1 : Cfg) (v0 : Vol) (m : QEv) (rp : Option Nat) : Prop where
  dur : Dur SeqK c1
  vol : VolH (c1.withVol v0) (some m.id) rp
  nojoin : v0.joins = []
  mem : m ∈ c1.evq
  unacked : m.unacked = true
  rpok : ∀ r, rp = some r → r = m.id

namespace SMid
variable {c c1 : Cfg} {v0 : Vol} {m : QEv} {rp : Option Nat}

theorem inhand (h : SMid c1 v0 m rp) : m.id ∈ uEv (c1.withVol v0).evq := mem_uEv.mpr ⟨m, h.mem, h.unacked, rfl⟩

theorem kind_of (h : SMid c1 v0 m rp) : ∀ e ∈ (c1.withVol v0).evq, e.id = m.id → e.kind = m.kind :=
  kind_at rfl h.dur.idnd h.mem

theorem good (h : SMid c1 v0 m rp) {acts : List Act} {v : Vol} (cut : Option Nat) (hok : ok SeqK c1 acts) (hj : v.joins = [])
    (hv : VolI ((acts.foldl Cfg.act c1).withVol v)) (hmu : mu ((acts.foldl Cfg.act c1).withVol v) < mu c) :
    Good c (c1.handler acts v cut) cut True :=
  ⟨SInv.handler cut h.dur hok hj hv, fun hc _ => by subst hc; exact hmu⟩

theorem next (h : SMid c1 v0 m rp) (start : Bool) {k : EvKind} (hk : SeqK k)
    (hvis : visits (todoOf k) + 1 ≤ visits (todoOf m.kind)) (cut : Option Nat) (hc : mu (c1.withVol v0) ≤ mu c) :
    Good c (c1.handler (preOf start ++ ([.pubEv k, .ackEv m.id] ++ ackRof rp)) v0 cut) cut True := by
  obtain ⟨l1, l2, he, h1, h2⟩ := h.dur.split h.mem
  have hlt : m.id < c1.nextId := h.dur.idlt _ (mem_evK h.mem)
  refine h.good cut (ok_next start rp he h1 h2 h.unacked hlt hk h.rpok) h.nojoin ?_ ?_
  · rw [← foldl_act_withVol, List.foldl_append, fold_pre, List.foldl_append]
    exact (((h.vol.running _).pubEv h.dur.uEv_lt k).ackEv.ackRof h.dur.corrnd).toI
  · have hq := ack_split h1 h2 (l3 := [({ id := c1.nextId, kind := k } : QEv)])
      (fun e he => List.mem_singleton.mp he ▸ Nat.ne_of_gt hlt) h.unacked
    have hr := ready_ackedRpq_le rp c1.rpq
    rw [fold_next]
    simp only [mu, evW, Cfg.withVol, he, hq, List.map_append, List.map_cons, List.map_nil, List.sum_append, List.sum_cons,
      List.sum_nil, h.unacked, if_true, Bool.false_eq_true, if_false] at hc hr ⊢
    omega

theorem fin (h : SMid c1 v0 m rp) (start : Bool) (cut : Option Nat) (hc : mu (c1.withVol v0) ≤ mu c) :
    Good c (c1.handler (preOf start ++ ([.note true, .ackEv m.id] ++ ackRof rp)) v0 cut) cut True := by
  obtain ⟨l1, l2, he, h1, h2⟩ := h.dur.split h.mem
  refine h.good cut (ok_end start rp he h1 h2 h.unacked h.rpok) h.nojoin ?_ ?_
  · rw [← foldl_act_withVol, List.foldl_append, fold_pre, List.foldl_append]
    exact (((h.vol.running _).note true).ackEv.ackRof h.dur.corrnd).toI
  · have hq := ack_split h1 h2 (l3 := []) (by simp) h.unacked
    have hr := ready_ackedRpq_le rp c1.rpq
    simp only [List.append_nil] at hq
    rw [fold_end]
    simp only [mu, evW, Cfg.withVol, he, hq, List.map_append, List.map_cons, List.sum_append, List.sum_cons,
      h.unacked, if_true] at hc hr ⊢
    omega

theorem drop (h : SMid c1 v0 m none) (hn : 1 ≤ c1.notes) (cut : Option Nat) (hc : mu (c1.withVol v0) ≤ mu c) :
    Good c (c1.handler [.ackEv m.id] v0 cut) cut True := by
  obtain ⟨l1, l2, he, h1, h2⟩ := h.dur.split h.mem
  refine h.good cut ⟨Or.inl hn, trivial⟩ h.nojoin ?_ ?_
  · rw [← foldl_act_withVol]
    exact h.vol.ackEv.toI
  · have hq := ack_split h1 h2 (l3 := []) (by simp) h.unacked
    simp only [List.append_nil] at hq
    have hf : List.foldl Cfg.act c1 [.ackEv m.id] = { c1 with evq := l1 ++ l2 } := by
      rw [← hq, ← he]; rfl
    rw [hf]
    simp only [mu, evW, Cfg.withVol, he, List.map_append, List.map_cons, List.sum_append, List.sum_cons, h.unacked, if_true] at hc ⊢
    omega

theorem arm (h : SMid c1 v0 m none) (start : Bool) (hk : timerKind m.kind = true) (cut : Option Nat)
    (hc : mu (c1.withVol v0) + 4 ≤ mu c) :
    Good c (c1.handler (preOf start) { v0 with timers := insertNat m.id v0.timers } cut) cut True := by
  have hnt : m.id ∉ v0.timers := (h.vol.free_ev _ rfl).1
  refine h.good cut (ok_pre_only _ start) h.nojoin ?_ ?_
  · rw [← foldl_act_withVol]
    exact ((h.vol.arm h.inhand fun e he hid => h.kind_of e he hid ▸ hk).pre start).toI
  · rw [fold_pre]
    simp only [mu, Cfg.withVol, length_insertNat_new hnt] at hc ⊢
    omega

theorem request (h : SMid c1 v0 m none) (start : Bool) (hk : isTaskKind m.kind = true) (cut : Option Nat)
    (hc : mu (c1.withVol v0) + 2 ≤ mu c) :
    Good c (c1.handler ((if c1.sent.contains m.id then [] else [.pubReq m.id]) ++ preOf start)
      { v0 with pending := insertNat m.id v0.pending } cut) cut True := by
  have hkd : ∀ e ∈ (c1.withVol v0).evq, e.id = m.id → isTaskKind e.kind = true := fun e he hid => h.kind_of e he hid ▸ hk
  split
  · rename_i hs
    refine h.good cut (ok_pre_only _ start) h.nojoin ?_ ?_
    · rw [← foldl_act_withVol]
      exact ((h.vol.register h.inhand (show m.id ∈ c1.sent by simpa using hs) hkd).pre start).toI
    · rw [List.nil_append, fold_pre]
      exact Nat.lt_of_lt_of_le (Nat.lt_add_of_pos_right Nat.two_pos) hc
  · rename_i hs
    refine h.good cut ⟨⟨⟨(m.id, m.kind), mem_evK h.mem, rfl, hk⟩, by simpa using hs⟩, ok_pre_only _ start⟩ h.nojoin ?_ ?_
    · rw [← foldl_act_withVol, List.foldl_append]
      exact (((h.vol.pubReq m.id).register h.inhand (List.mem_append_right _ (List.mem_singleton.mpr rfl)) hkd).pre start).toI
    · rw [fold_send_pre]
      simp only [mu, Cfg.withVol, List.filter_append, List.length_append, List.filter_cons, List.filter_nil, Bool.not_false,
        if_true, List.length_cons, List.length_nil] at hc ⊢
      omega

theorem over (h : SMid c1 v0 m rp) {rest : Sk} (hrest : rest.seq = true)
    (hvis : rest.isVisit = true → visits rest + 1 ≤ visits (todoOf m.kind))
    (cX : Cfg) (n : Nat) (start : Bool) (cut : Option Nat) (hc : mu (c1.withVol v0) ≤ mu c) :
    Good c (c1.handler (preOf start ++ (advance Quirks.none cX (n + 2) m.id rest [] none rp v0).1)
      (advance Quirks.none cX (n + 2) m.id rest [] none rp v0).2 cut) cut True := by
  rcases seq_cases hrest with rfl | ⟨hv, hkk⟩
  · rw [advance_done_top h.nojoin]
    exact h.fin start cut hc
  · rw [advance_next hv]
    exact h.next start hkk (hvis hv) cut hc

end SMid

/-! ### takes -/

namespace SInv
variable {c : Cfg} {id : Nat}

theorem deliver (h : SInv c) {m : QEv} (hf : findEv c id false = some m) :
    SMid (markEv c id) c.vol { m with unacked := true } none ∧ mu ((markEv c id).withVol c.vol) + 5 ≤ mu c := by
  obtain ⟨hm, rfl, hu⟩ := findEv_some hf
  obtain ⟨l1, l2, he, h1, h2⟩ := h.dur.split hm
  have hmk := markEv_split he h1 h2 hu
  refine ⟨⟨h.dur.markEv m.id, ?_, h.nojoin, ?_, rfl, nofun⟩, ?_⟩
  · rw [hmk]
    exact h.vol.toH.deliver (id := m.id) (not_mem_uEv_ready he h1 h2 hu) (mem_uEv_marked (m := m) he rfl hu rfl) (by simp [evK, he])
  · rw [hmk]; simp
  · rw [hmk]
    simp only [mu, evW, Cfg.withVol, Cfg.vol, he, List.map_append, List.map_cons, List.sum_append, List.sum_cons, hu,
      if_true, Bool.false_eq_true, if_false]
    omega

theorem timer (h : SInv c) {m : QEv} (hm : m ∈ c.evq) (hu : m.unacked = true) (hc : m.id ∈ c.timers) :
    SMid c { c.vol with timers := c.timers.erase m.id } m none ∧
      mu (c.withVol { c.vol with timers := c.timers.erase m.id }) + 3 ≤ mu c := by
  refine ⟨⟨h.dur, ?_, h.nojoin, hm, hu, nofun⟩, ?_⟩
  · exact h.vol.toH.disarm hc (by rw [h.nojoin]; exact List.not_mem_nil)
  · have := length_erase_mem hc
    simp only [mu, Cfg.withVol]
    omega

theorem deliverRp (h : SInv c) {corr : Nat} (hany : c.rpq.any (fun r => r.corr == corr && !r.unacked) = true) :
    Dur SeqK { c with rpq := markRpL c.rpq corr } ∧ VolH { c with rpq := markRpL c.rpq corr } none (some corr) ∧
      corr ∈ uRp (markRpL c.rpq corr) ∧
      ((markRpL c.rpq corr).filter (fun r => !r.unacked)).length + 1 = (c.rpq.filter (fun r => !r.unacked)).length := by
  obtain ⟨k1, k2, r, hk, g1, g2, rfl, hru, hmk⟩ := markRpL_of_any h.dur.corrnd hany
  have hu := mem_uRp_marked (r' := { r with unacked := true }) hk rfl hru rfl
  rw [hmk]
  exact ⟨hmk ▸ h.dur.markRp r.corr, h.vol.toH.deliverRp (not_mem_uRp_ready hk g1 g2 hru) hu, (hu _).mpr (Or.inl rfl), ready_marked hk hru rfl⟩

/-- `orph`: the retained replies as they are (the broker delivers the reply to `corr`) or without `corr` (the orphan handler
matches it) -/
theorem answer {c2 c' : Cfg} (h : SInv c) {corr : Nat} (hp : corr ∈ c.pending) (hd : Dur SeqK c2) {orph : List Nat}
    (hv : VolH (c2.withVol { c.vol with orphans := orph }) none (some corr)) (he : c2.evq = c.evq) {cut : Option Nat}
    (hs : (onReply Quirks.none c2 corr { c.vol with orphans := orph }).map (fun x => c2.handler x.1 x.2 cut) = some c')
    (hc : mu (c2.withVol { c.vol with orphans := orph, pending := c.pending.erase corr }) ≤ mu c) : Good c c' cut True := by
  obtain ⟨m, hm, rfl, hu, htk, hf⟩ := pending_task h.dur h.vol hp
  have hsq : seqKind m.kind = true := h.dur.kinds _ (mem_evK hm)
  obtain ⟨rc, rest, start, hk⟩ := task_of_seq hsq htk
  rw [hk] at hsq
  have hmid : SMid c2 { c.vol with orphans := orph, pending := c.pending.erase m.id } m (some m.id) :=
    ⟨hd, hv.unregister hp (by show m.id ∉ heldE c.joins; rw [h.nojoin]; exact List.not_mem_nil), h.nojoin, he ▸ hm, hu,
      fun _ hr => (Option.some.inj hr).symm⟩
  obtain ⟨n, hn⟩ := fuelOf_succ c2
  rw [onReply_eq _ ((findEv_congr he _ _).trans hf) hk, hn, Option.map_some] at hs
  cases hs
  exact hmid.over (rest := rest) hsq (fun _ => hk ▸ Nat.le_refl _) _ n false cut hc

end SInv

theorem good_ev {c c' : Cfg} {id : Nat} {cut : Option Nat} (h : SInv c)
    (hs : step Quirks.none c (.ev id) cut = some c') : Good c c' cut True := by
  obtain ⟨m, hf⟩ := step_ev_some h.dur.nodiv hs
  obtain ⟨hmid, hmu⟩ := h.deliver hf
  obtain ⟨hm, rfl, -⟩ := findEv_some hf
  have hsk := h.dur.kinds _ (mem_evK hm)
  obtain ⟨t, start, hk, hseq⟩ := seqKind_inv (k := m.kind) hsk
  obtain ⟨n, hn⟩ := fuelOf_succ (markEv c m.id)
  by_cases hdrop : inDeadJoin Quirks.none (markEv c m.id) (markEv c m.id).vol m = true
  · -- delivered for the first time after the terminal notification: dropped
    rw [step_ev_drop h.dur.nodiv hf hdrop, dropEv_top hk] at hs
    cases hs
    exact hmid.drop ((inDead_top (c := markEv c m.id) hk h.dur.nofail).mp hdrop).1 cut (Nat.le_of_add_right_le hmu)
  rw [step_ev_eq h.dur.nodiv hf (seq_not_opaque hsk) (Bool.not_eq_true _ ▸ hdrop)] at hs
  cases hs
  cases t with
  | wait rest =>
    simp only [evHandler, hk]
    exact hmid.arm start (congrArg timerKind hk) cut (Nat.le_of_succ_le hmu)
  | done =>
    simp only [evHandler, hk, hn]
    exact hmid.over rfl (fun hv => by cases hv) _ n start cut (Nat.le_of_add_right_le hmu)
  | step rest =>
    simp only [evHandler, hk, hn]
    exact hmid.over (rest := rest) hseq (fun _ => hk ▸ Nat.le_refl _) _ n start cut (Nat.le_of_add_right_le hmu)
  | task rc rest =>
    cases rc with
    | zero =>
      simp only [evHandler, hk, requestOf]
      exact hmid.request start (congrArg isTaskKind hk) cut (by omega)
    | succ rc =>
      simp only [evHandler, hk]
      exact hmid.arm start (congrArg timerKind hk) cut (Nat.le_of_succ_le hmu)
  | _ => simp [Sk.seq] at hseq

theorem good_tm {c c' : Cfg} {id : Nat} {cut : Option Nat} (h : SInv c)
    (hs : step Quirks.none c (.tm id) cut = some c') : Good c c' cut (id ∈ c.timers) := by
  by_cases hc : id ∈ c.timers
  · obtain ⟨m, hm, rfl, hu, htk, hf⟩ := armed_event h.dur h.vol hc
    obtain ⟨hmid, hmu⟩ := h.timer hm hu hc
    obtain ⟨t, start, hk, hseq⟩ := seqKind_inv (k := m.kind) (h.dur.kinds _ (mem_evK hmid.mem))
    obtain ⟨n, hn⟩ := fuelOf_succ c
    refine Good.weaken ?_ (fun _ => trivial)
    cases hd : (!waitVisit m.kind && inDeadJoin Quirks.none c { c.vol with timers := c.timers.erase m.id } m) with
    | true =>
      -- the execution has ended since the event was accepted (it was not redelivered): dropped
      rw [step_tm_drop h.dur.nodiv hc hf hd, dropEv_top hk] at hs
      cases hs
      exact hmid.drop ((inDead_top hk h.dur.nofail).mp (Bool.and_eq_true_iff.mp hd).2).1 cut (Nat.le_of_add_right_le hmu)
    | false =>
      rw [step_tm_eq h.dur.nodiv hc hf htk hd] at hs
      cases hs
      cases t with
      | wait rest =>
        simp only [tmHandler, hk, hn]
        exact hmid.over (rest := rest) hseq (fun _ => hk ▸ Nat.le_refl _) c n false cut (Nat.le_of_add_right_le hmu)
      | task rc rest =>
        simp only [tmHandler, hk, requestOf]
        simpa [preOf] using hmid.request false (congrArg isTaskKind hk) cut (Nat.le_of_succ_le hmu)
      | done => cases hk ▸ htk
      | step _ => cases hk ▸ htk
      | _ => simp [Sk.seq] at hseq
  · obtain rfl := step_tm_idle h.dur.nodiv hc hs
    exact (good_noop c cut h).weaken fun hh => hc hh

theorem good_rp {c c' : Cfg} {corr : Nat} {cut : Option Nat} (h : SInv c)
    (hs : step Quirks.none c (.rp corr) cut = some c') : Good c c' cut True := by
  rw [step_rp_eq _ h.dur.nodiv, Option.ite_none_right_eq_some] at hs
  obtain ⟨hany, hs⟩ := hs
  obtain ⟨hd, hV, hin, hlen⟩ := h.deliverRp hany
  split at hs
  · rename_i hp
    exact h.answer hp hd (orph := c.orphans) hV rfl hs (by simp only [mu, Cfg.withVol, Cfg.vol]; omega)
  · cases hs
    refine ⟨SInv.handler cut hd trivial h.nojoin (hV.retain hin).toI, fun hc _ => ?_⟩
    subst hc
    simp only [Cfg.handler, List.foldl, mu, Cfg.withVol, Cfg.vol]
    omega

theorem good_tick {c c' : Cfg} {cut : Option Nat} (h : SInv c)
    (hs : step Quirks.none c .tick cut = some c') : Good c c' cut (∃ o ∈ c.orphans, o ∈ c.pending) := by
  rw [step_tick_eq _ h.dur.nodiv] at hs
  split at hs
  · rename_i hf
    cases hs
    exact (good_noop c cut h).weaken fun ⟨o, ho, hp⟩ => by simpa [hp] using List.find?_eq_none.mp hf o ho
  · rename_i corr hf
    have hp : corr ∈ c.pending := by simpa using List.find?_some hf
    exact (h.answer hp h.dur (orph := c.orphans.erase corr) (h.vol.toH.unretain (by rw [h.nojoin]; exact List.not_mem_nil)) rfl hs
      (Nat.le_refl (mu c))).weaken fun _ => trivial

theorem sinv_step {c c' : Cfg} {op : Op} {cut : Option Nat} (h : SInv c)
    (hs : step Quirks.none c op cut = some c') : SInv c' := by
  cases op with
  | ev id => exact (good_ev h hs).inv
  | tm id => exact (good_tm h hs).inv
  | rp corr => exact (good_rp h hs).inv
  | tick => exact (good_tick h hs).inv
  | crash =>
    cases (step_crash_eq _ h.dur.nodiv cut).symm.trans hs
    exact ⟨h.dur.crash, VolI.crash c, rfl⟩

theorem sinv_run {c c' : Cfg} {sched : Sched} (h : SInv c) (hr : run Quirks.none c sched = some c') : SInv c' :=
  run_keeps Quirks.none sched c c' (fun _ _ _ _ h hs => sinv_step h hs) h hr

theorem quiet_empty {c : Cfg} (h : SInv c) (hq : nextOp c = none) : c.evq = [] := by
  apply List.eq_nil_iff_forall_not_mem.mpr
  intro e he
  rcases quiet_held h.dur h.vol hq e he with hh | ⟨_, hh⟩ <;> rw [h.nojoin] at hh <;> cases hh

theorem canon_progress (c : Cfg) (op : Op) (h : SInv c) (hop : nextOp c = some op) :
    ∃ c', step Quirks.none c op none = some c' ∧ SInv c' ∧ mu c' < mu c :=
  canon_step h.dur h.vol
    (fun _ _ hs => have g := good_ev h hs; ⟨g.inv, g.less rfl trivial⟩)
    (fun _ _ ht hs => have g := good_tm h hs; ⟨g.inv, g.less rfl ht⟩)
    (fun _ _ hs => have g := good_rp h hs; ⟨g.inv, g.less rfl trivial⟩)
    (fun _ ho hs => have g := good_tick h hs; ⟨g.inv, g.less rfl ho⟩) hop

theorem sdrain (fuel : Nat) (c : Cfg) (h : SInv c) (hf : mu c ≤ fuel) :
    SInv (drain Quirks.none fuel c) ∧ nextOp (drain Quirks.none fuel c) = none :=
  drain_rest Quirks.none canon_progress fuel c h hf

end Asl.Crash
