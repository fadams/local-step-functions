/- What the functions behind the intrinsics compute, each as the conjunction C13 states. -/
import AslModel.Intrinsic
import Proofs.Lemmas.Obj
namespace Asl

theorem chunks_spec (n : Nat) (hn : 0 < n) : ∀ (fuel : Nat) (xs : List Json), xs.length ≤ fuel →
    (chunks n fuel xs).flatten = xs ∧
    (∀ c ∈ chunks n fuel xs, 0 < c.length ∧ c.length ≤ n) ∧
    (∀ c ∈ (chunks n fuel xs).dropLast, c.length = n)
  | 0, xs, h => by cases xs <;> simp_all [chunks]
  | f + 1, [], _ => by simp [chunks]
  | f + 1, x :: xs, h => by
    obtain ⟨ih1, ih2, ih3⟩ := chunks_spec n hn f ((x :: xs).drop n) (by simp at h ⊢; omega)
    rw [chunks]
    refine ⟨by rw [List.flatten_cons, ih1, List.take_append_drop], ?_, ?_⟩
    · simp only [List.mem_cons, forall_eq_or_imp, List.length_take]
      exact ⟨by simp; omega, ih2⟩
    · cases hrest : chunks n f ((x :: xs).drop n) with
      | nil => simp
      | cons d ds =>
        rw [hrest] at ih3
        simp only [List.dropLast_cons_cons, List.mem_cons, forall_eq_or_imp, List.length_take]
        refine ⟨?_, ih3⟩
        -- a further piece exists, so more than `n` elements were there
        have hne : (x :: xs).drop n ≠ [] := by
          intro h0; rw [h0] at hrest; cases f <;> simp [chunks] at hrest
        have := mt List.drop_eq_nil_of_le hne
        omega

theorem fnArrayPartition_eq (xs : List Json) (n : Int) (hn : 0 < n) :
    fnArrayPartition [.arr xs, .num n] = .ok (.arr ((chunks n.toNat xs.length xs).map .arr)) := by
  simp [fnArrayPartition, Int.not_le.mpr hn]

theorem fnArrayRange_eq (a b s : Int) (hs : s ≠ 0) :
    fnArrayRange [.num a, .num b, .num s] =
      if 1000 < (rangeList a b s).length then .error .intrinsic
      else .ok (.arr ((rangeList a b s).map .num)) := by
  simp [fnArrayRange, hs]

theorem rangeUp_spec (hi s : Int) : ∀ (fuel : Nat) (x : Int),
    (∀ (i : Nat) (h : i < (rangeUp hi s fuel x).length), (rangeUp hi s fuel x)[i] = x + i * s) ∧
    (∀ y ∈ rangeUp hi s fuel x, y ≤ hi) ∧
    ((rangeUp hi s fuel x).length < fuel → hi < x + (rangeUp hi s fuel x).length * s)
  | 0, x => by simp [rangeUp]
  | f + 1, x => by
    obtain ⟨ih1, ih2, ih3⟩ := rangeUp_spec hi s f (x + s)
    by_cases hx : x ≤ hi
    · simp only [rangeUp, hx, ite_true, List.length_cons, List.mem_cons, Nat.add_lt_add_iff_right]
      refine ⟨fun i h => ?_, fun y hy => hy.elim (· ▸ hx) (ih2 y), fun h => ?_⟩
      · cases i with
        | zero => simp
        | succ j => rw [List.getElem_cons_succ, ih1 j (by omega)]; push_cast; rw [Int.add_mul]; omega
      · have := ih3 h; push_cast; rw [Int.add_mul]; omega
    · simp [rangeUp, hx]; omega

theorem rangeDown_eq (lo s : Int) (fuel : Nat) (x : Int) :
    rangeDown lo s fuel x = (rangeUp (-lo) (-s) fuel (-x)).map (- ·) := by
  fun_induction rangeDown lo s fuel x <;> simp_all [rangeUp, Int.neg_add]

theorem rangeDown_spec (lo s : Int) (fuel : Nat) (x : Int) :
    (∀ (i : Nat) (h : i < (rangeDown lo s fuel x).length), (rangeDown lo s fuel x)[i] = x + i * s) ∧
    (∀ y ∈ rangeDown lo s fuel x, lo ≤ y) ∧
    ((rangeDown lo s fuel x).length < fuel → x + (rangeDown lo s fuel x).length * s < lo) := by
  obtain ⟨h1, h2, h3⟩ := rangeUp_spec (-lo) (-s) fuel (-x)
  simp only [rangeDown_eq, List.length_map, List.getElem_map, List.mem_map]
  refine ⟨fun i h => ?_, ?_, fun h => ?_⟩
  · rw [h1 i h, Int.mul_neg]; omega
  · rintro y ⟨z, hz, rfl⟩; have := h2 z hz; omega
  · have := h3 h; rw [Int.mul_neg] at this; omega

theorem jeq_refl (a : Json) : jeq a a = true := by simp [jeq]
theorem jeq_symm (a b : Json) : jeq a b = jeq b a := by simp [jeq, eq_comm]
theorem jeq_trans (a b c : Json) (h1 : jeq a b = true) (h2 : jeq b c = true) : jeq a c = true := by
  simp [jeq] at *; rw [h1, h2]

theorem uniq_sublist : ∀ xs : List Json, (uniq xs).Sublist xs
  | [] => by simp [uniq]
  | x :: xs => List.Sublist.cons_cons x ((List.filter_sublist).trans (uniq_sublist xs))

theorem uniq_pairwise : ∀ xs : List Json, (uniq xs).Pairwise (fun a b => jeq a b = false)
  | [] => by simp [uniq]
  | x :: xs => by
    rw [uniq, List.pairwise_cons]
    refine ⟨?_, (uniq_pairwise xs).sublist List.filter_sublist⟩
    intro y hy
    have := (List.mem_filter.mp hy).2
    simpa using this

theorem uniq_complete : ∀ (xs : List Json) (y : Json), y ∈ xs → ∃ z ∈ uniq xs, jeq z y = true
  | [], y, h => by simp at h
  | x :: xs, y, h => by
    rw [uniq]
    rcases List.mem_cons.mp h with h1 | h1
    · subst h1; exact ⟨y, by simp, jeq_refl y⟩
    · obtain ⟨z, hz, hzy⟩ := uniq_complete xs y h1
      by_cases hx : jeq x z = true
      · exact ⟨x, by simp, jeq_trans x z y hx hzy⟩
      · exact ⟨z, by simp [hz, hx], hzy⟩

theorem uniq_keeps_first : ∀ (pre : List Json) (y : Json) (post : List Json),
    (∀ p ∈ pre, jeq p y = false) → y ∈ uniq (pre ++ y :: post)
  | [], y, post, _ => by simp [uniq]
  | p :: pre, y, post, h => by
    rw [List.cons_append, uniq]
    have h1 := uniq_keeps_first pre y post (fun q hq => h q (by simp [hq]))
    have h2 := h p (by simp)
    simp [h1, h2]

/-- the last binding of `k` in an association list -/
def objGetLast (kvs : List (Str × Json)) (k : Str) : Option Json := objGet kvs.reverse k

theorem mergeObj_get (b : List (Str × Json)) : ∀ (a : List (Str × Json)) (k : Str),
    objGet (mergeObj a b) k = (objGetLast b k).or (objGet a k) := by
  induction b with
  | nil => intro a k; simp [mergeObj, objGetLast, objGet]
  | cons kv rest ih =>
    intro a k
    rw [show mergeObj a (kv :: rest) = mergeObj (objSet a kv.1 kv.2) rest from rfl, ih]
    by_cases h : kv.1 = k
    · subst h; simp [objGetLast, objGet_append, objGet]
    · simp [objGetLast, objGet_append, objGet, h, objGet_objSet_ne a _ k _ h]

/-- weave pieces and separators back together -/
def weave : List Str → Str → Str
  | [], _ => []
  | [p], _ => p
  | p :: q :: ps, s :: ss => p ++ s :: weave (q :: ps) ss
  | p :: _ :: _, [] => p

theorem weave_cons_head (c : Char) (p : Str) (ps : List Str) (ss : Str) :
    weave ((c :: p) :: ps) ss = c :: weave (p :: ps) ss := by
  cases ps <;> cases ss <;> rfl

/-- the separator characters of `d`, in order -/
def sepsOf (seps d : Str) : Str := d.filter (fun c => seps.contains c)

theorem splitOn_spec (seps : Str) (d : Str) :
    (∀ p ∈ splitOn seps d, ∀ c ∈ p, seps.contains c = false) ∧
    (splitOn seps d).length = (sepsOf seps d).length + 1 ∧
    weave (splitOn seps d) (sepsOf seps d) = d := by
  induction d with
  | nil => simp [splitOn, sepsOf, weave]
  | cons c cs ih =>
    -- the tail has a first piece: it has one more piece than separators
    obtain ⟨p, ps, hs⟩ := List.exists_cons_of_length_eq_add_one ih.2.1
    rw [hs] at ih
    obtain ⟨ih1, ih2, ih3⟩ := ih
    rw [splitOn, hs]
    by_cases h : seps.contains c = true
    · have hf : sepsOf seps (c :: cs) = c :: sepsOf seps cs := List.filter_cons_of_pos h
      rw [hf, if_pos h]
      exact ⟨by simpa using ih1, by simpa using ih2, by simpa [weave] using ih3⟩
    · have hf : sepsOf seps (c :: cs) = sepsOf seps cs := List.filter_cons_of_neg h
      rw [hf, if_neg h, consHead, weave_cons_head, ih3]
      simp only [List.mem_cons, forall_eq_or_imp] at ih1 ⊢
      exact ⟨⟨⟨by simpa using h, ih1.1⟩, ih1.2⟩, by simpa using ih2⟩

end Asl
