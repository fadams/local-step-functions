/- The Redis stores: what each move on the world or on a client does to the mapping a namespace presents (`rabs`) and to the
coherence of the caches (`Coh`). -/
import Proofs.Lemmas.Store
namespace Asl.Store
open Asl

@[simp] theorem touch_srv (w : RWorld) (fk : Str) : (touch w fk).srv = w.srv := rfl
@[simp] theorem touch_ttl (w : RWorld) (fk : Str) : (touch w fk).ttl = w.ttl := rfl
@[simp] theorem touch_cl (w : RWorld) (fk : Str) (c : Nat) : (touch w fk).cl c = notify fk (w.cl c) := rfl
@[simp] theorem setCl_srv (w : RWorld) (c : Nat) (x : Client) : (setCl w c x).srv = w.srv := rfl
@[simp] theorem setCl_ttl (w : RWorld) (c : Nat) (x : Client) : (setCl w c x).ttl = w.ttl := rfl
theorem setCl_cl (w : RWorld) (c c' : Nat) (x : Client) :
    (setCl w c x).cl c' = if c' = c then x else w.cl c' := rfl

theorem setCl_keeps {P : Nat → Client → Prop} {w : RWorld} {c : Nat} {x : Client}
    (h : ∀ c', P c' (w.cl c')) (hx : P c x) (c' : Nat) : P c' ((setCl w c x).cl c') := by
  rw [setCl_cl]
  split
  · rename_i e
    exact e ▸ hx
  · exact h c'
@[simp] theorem srvPut_srv (w : RWorld) (fk : Str) (v : Json) : (srvPut w fk v).srv = aSet w.srv fk v := rfl
@[simp] theorem srvPut_ttl (w : RWorld) (fk : Str) (v : Json) : (srvPut w fk v).ttl = w.ttl := rfl

@[simp] theorem srvDel_srv (w : RWorld) (fk : Str) : (srvDel w fk).srv = aDel w.srv fk := by
  unfold srvDel
  split
  · rfl
  · exact (aDel_absent _ _ (Option.not_isSome_iff_eq_none.mp ‹_›)).symm

@[simp] theorem notify_cache (fk : Str) (x : Client) : (notify fk x).cache = x.cache := by
  unfold notify; split <;> rfl

@[simp] theorem notify_on (fk : Str) (x : Client) : (notify fk x).on = x.on := by
  unfold notify; split <;> rfl

theorem mem_notify_pending (fk a : Str) (x : Client) (h : a ∈ x.pending) : a ∈ (notify fk x).pending := by
  unfold notify; split
  · simp [h]
  · exact h

@[simp] theorem remember_cache (fk : Str) (x : Client) : (remember fk x).cache = x.cache := by
  unfold remember; split <;> rfl

@[simp] theorem remember_pending (fk : Str) (x : Client) : (remember fk x).pending = x.pending := by
  unfold remember; split <;> rfl

@[simp] theorem remember_on (fk : Str) (x : Client) : (remember fk x).on = x.on := by
  unfold remember; split <;> rfl

theorem mem_remember_tracked (fk a : Str) (x : Client) (h : a ∈ x.tracked) : a ∈ (remember fk x).tracked := by
  unfold remember; split
  · simp [h]
  · exact h

theorem remember_tracks (fk : Str) (x : Client) (h : x.on = true) : fk ∈ (remember fk x).tracked := by
  unfold remember
  by_cases e : fk ∈ x.tracked
  · simp [e]
  · simp [h, e]

theorem rabs_put (w : RWorld) (p k : Str) (v : Json) :
    rabs (srvPut w (pk p k) v) p = (rabs w p).set k v := by
  funext k'; simp [rabs, aGet_aSet, Spec.set, pk_inj]

theorem rabs_del (w : RWorld) (p k : Str) : rabs (srvDel w (pk p k)) p = (rabs w p).del k := by
  funext k'; simp [rabs, aGet_aDel, Spec.del, pk_inj]

theorem rabs_srv_eq (w w' : RWorld) (p : Str) (h : w'.srv = w.srv) : rabs w' p = rabs w p := by
  funext k; simp [rabs, h]

theorem scanKeys_mem (p : Str) (srv : List (Str × Json)) (k : Str) :
    k ∈ scanKeys p srv ↔ (aGet srv (pk p k)).isSome = true := by
  rw [aGet_isSome_iff]
  unfold scanKeys
  simp only [List.mem_map, List.mem_filter]
  constructor
  · rintro ⟨fk, ⟨hm, hp⟩, rfl⟩
    rw [pk_of_prefix p fk hp]; exact hm
  · intro hm
    refine ⟨pk p k, ⟨hm, ?_⟩, rmPrefix_pk p k⟩
    rw [List.isPrefixOf_iff_prefix]
    exact ⟨k, by simp [pk]⟩

theorem nodup_map_on {α β : Type} (f : α → β) (l : List α)
    (hf : ∀ a ∈ l, ∀ b ∈ l, f a = f b → a = b) (h : l.Nodup) : (l.map f).Nodup :=
  List.pairwise_map.mpr (h.imp_of_mem fun ha hb hne e => hne (hf _ ha _ hb e))

theorem scanKeys_nodup (p : Str) (srv : List (Str × Json)) (h : (aKeys srv).Nodup) :
    (scanKeys p srv).Nodup := by
  unfold scanKeys
  apply nodup_map_on
  · intro a ha b hb hab
    simp only [List.mem_filter] at ha hb
    rw [← pk_of_prefix p a ha.2, ← pk_of_prefix p b hb.2, hab]
  · exact h.sublist List.filter_sublist

/-- every cached entry is either awaiting an invalidation already sent, or is tracked by the server
and equal to what the server holds -/
def CohC (srv : List (Str × Json)) (cfg : Cfg) (x : Client) : Prop :=
  ∀ k v, (k, v) ∈ x.cache →
    pk cfg.pre k ∈ x.pending ∨
    (pk cfg.pre k ∈ x.tracked ∧ view cfg.isList (aGet srv (pk cfg.pre k)) = v)

def Coh (cfgs : Nat → Cfg) (w : RWorld) : Prop := ∀ c, CohC w.srv (cfgs c) (w.cl c)

def CapOK (cfgs : Nat → Cfg) (w : RWorld) : Prop := ∀ c, (w.cl c).cache.length ≤ (cfgs c).cap

/-- operations a store of this kind accepts: a dict (list) value for a dict (list) store, nested
update on dict stores, append on list stores, a positive time-to-live -/
def opOk (cfg : Cfg) : Op → Bool
  | .set _ v => okVal cfg.isList v
  | .upd _ _ _ => !cfg.isList
  | .app _ _ => cfg.isList
  | .ttl _ n => n != 0
  | _ => true

theorem cohC_write (srv srv' : List (Str × Json)) (cfg : Cfg) (x : Client) (fk : Str)
    (hs : ∀ k', k' ≠ fk → aGet srv' k' = aGet srv k') (h : CohC srv cfg x) :
    CohC srv' cfg (notify fk x) := by
  intro k v hm
  rw [notify_cache] at hm
  rcases h k v hm with hp | ⟨ht, hv⟩
  · exact Or.inl (mem_notify_pending _ _ _ hp)
  · by_cases e : pk cfg.pre k = fk
    · left
      rw [e] at ht ⊢
      simp [notify, ht]
    · right
      refine ⟨?_, by rw [hs _ e]; exact hv⟩
      unfold notify
      split
      · simp [ht, e]
      · exact ht

theorem coh_write (cfgs : Nat → Cfg) (w : RWorld) (srv' : List (Str × Json)) (ttl' : List (Str × Nat))
    (fk : Str) (hs : ∀ k', k' ≠ fk → aGet srv' k' = aGet w.srv k') (h : Coh cfgs w) :
    Coh cfgs (touch { w with srv := srv', ttl := ttl' } fk) := by
  intro c
  exact cohC_write w.srv srv' (cfgs c) (w.cl c) fk hs (h c)

theorem coh_srvDel (cfgs : Nat → Cfg) (w : RWorld) (fk : Str) (h : Coh cfgs w) :
    Coh cfgs (srvDel w fk) := by
  unfold srvDel
  split
  · exact coh_write cfgs w _ _ fk (fun k' e => by simp [aGet_aDel, e]) h
  · exact h

theorem coh_srvPut (cfgs : Nat → Cfg) (w : RWorld) (fk : Str) (v : Json) (h : Coh cfgs w) :
    Coh cfgs (srvPut w fk v) :=
  coh_write cfgs w (aSet w.srv fk v) w.ttl fk (fun k' e => by simp [aGet_aSet, e]) h

theorem cohC_remember (srv : List (Str × Json)) (cfg : Cfg) (x : Client) (fk : Str)
    (h : CohC srv cfg x) : CohC srv cfg (remember fk x) := by
  intro k v hm
  rw [remember_cache] at hm
  rcases h k v hm with hp | ⟨ht, hv⟩
  · exact Or.inl (by simpa using hp)
  · exact Or.inr ⟨mem_remember_tracked _ _ _ ht, hv⟩

theorem coh_read (cfgs : Nat → Cfg) (w : RWorld) (c : Nat) (fk : Str) (h : Coh cfgs w) :
    Coh cfgs (setCl w c (remember fk (w.cl c))) :=
  setCl_keeps (P := fun c x => CohC w.srv (cfgs c) x) h (cohC_remember _ _ _ _ (h c))

theorem mem_lruInsert (cap : Nat) (cache : List (Str × Json)) (k : Str) (v : Json) (e : Str × Json)
    (h : e ∈ lruInsert cap cache k v) : e ∈ cache ∨ e = (k, v) := by
  unfold lruInsert at h
  simp only at h
  split at h
  · have := List.mem_of_mem_tail h
    simpa using this
  · simpa using h

theorem lruInsert_length (cap : Nat) (cache : List (Str × Json)) (k : Str) (v : Json)
    (hc : cache.length ≤ cap) : (lruInsert cap cache k v).length ≤ cap := by
  unfold lruInsert
  simp only
  split
  · simp; omega
  · rename_i h; simp at h ⊢; omega

theorem grow_keeps_ttl (q : Quirks) (cfgs : Nat → Cfg) (w : RWorld) (c : Nat) (op : Op)
    (h : isGrow op = true) : (rstep q cfgs w c op).1.ttl = w.ttl := by
  fun_cases rstep q cfgs w c op <;> first | rfl | cases h

theorem grow_run_keeps_ttl (q : Quirks) (cfgs : Nat → Cfg) (w : RWorld) (rest : List (Nat × Op))
    (h : ∀ e ∈ rest, isGrow e.2 = true) : (rrun q cfgs w rest).1.ttl = w.ttl := by
  induction rest generalizing w with
  | nil => rfl
  | cons e r ih =>
    obtain ⟨c, op⟩ := e
    simp only [rrun]
    rw [ih _ (fun e he => h e (List.mem_cons_of_mem _ he))]
    exact grow_keeps_ttl q cfgs w c op (h (c, op) (List.mem_cons_self ..))

theorem set_makes_present (q : Quirks) (cfgs : Nat → Cfg) (w : RWorld) (c : Nat) (k : Str) (v : Json)
    (hv : okVal (cfgs c).isList v = true) (hne : isEmptyVal v = false) :
    aGet (rstep q cfgs w c (.set k v)).1.srv (pk (cfgs c).pre k) = some v := by
  simp [rstep, hv, hne, aGet_aSet]

end Asl.Store
