/-
The JSON text round trip: `parseJson (render j) = some j` for every value whose object
member names are pairwise distinct at every level.  No condition on characters is needed:
every `Char` (Unicode scalar value) survives `escChar` / `parseStrBody`, including the
`\uXXXX` forms and the surrogate pairs of code points ≥ 65536.  The last section shows that
printed text passes the leading-zero screen of `States.StringToJson` (`leadingZero`).
-/
import AslModel.JsonText
import AslModel.Intrinsic
import Proofs.Lemmas.Scan
import Proofs.Lemmas.Obj
namespace Asl

theorem hexVal_hexDigit : ∀ n, n < 16 → hexVal (hexDigit n) = some n := by decide

theorem hexDigit_ne : ∀ n, n < 16 → hexDigit n ≠ '"' ∧ hexDigit n ≠ '\\' := by decide

theorem hex4Val_hex4 (n : Nat) (rest : Str) (h : n < 65536) :
    hex4Val (hex4 n ++ rest) = some (n, rest) := by
  simp only [hex4, List.cons_append, List.nil_append, hex4Val,
    hexVal_hexDigit _ (Nat.mod_lt _ (by decide : 0 < 16))]
  congr 2
  omega

/-- The escape letters of `json.dumps` and the characters they stand for. -/
def shortEsc : List (Char × Char) :=
  [('"', '"'), ('\\', '\\'), ('n', '\n'), ('r', '\r'), ('t', '\t'), ('b', Char.ofNat 8),
    ('f', Char.ofNat 12)]

theorem escChar_cases (c : Char) :
    (escChar c = [c] ∧ c ≠ '"' ∧ c ≠ '\\' ∧ ¬ c.toNat < 32) ∨
    (∃ e, escChar c = ['\\', e] ∧ (e, c) ∈ shortEsc) ∨
    (escChar c = '\\' :: 'u' :: hex4 c.toNat ∧ c.toNat < 65536) ∨
    (∃ hi lo, escChar c = ('\\' :: 'u' :: hex4 hi) ++ ('\\' :: 'u' :: hex4 lo) ∧
      (55296 ≤ hi ∧ hi < 56320) ∧ (56320 ≤ lo ∧ lo < 57344) ∧
      65536 + (hi - 55296) * 1024 + (lo - 56320) = c.toNat) := by
  fun_cases escChar c
  case case1 | case2 | case3 | case4 | case5 => subst_vars; exact .inr (.inl ⟨_, rfl, by decide⟩)
  · obtain rfl : Char.ofNat 8 = c := ‹c.toNat = 8› ▸ Char.ofNat_toNat c
    exact .inr (.inl ⟨_, rfl, by decide⟩)
  · obtain rfl : Char.ofNat 12 = c := ‹c.toNat = 12› ▸ Char.ofNat_toNat c
    exact .inr (.inl ⟨_, rfl, by decide⟩)
  · exact .inl ⟨rfl, ‹_›, ‹_›, by omega⟩
  · exact .inr (.inr (.inl ⟨rfl, ‹_›⟩))
  · have := char_scalar c
    exact .inr (.inr (.inr ⟨_, _, rfl, by omega⟩))

theorem parseStrBody_escChar (c : Char) (fuel : Nat) (rest acc : Str) :
    parseStrBody (fuel + 1) (escChar c ++ rest) acc = parseStrBody fuel rest (c :: acc) := by
  rcases escChar_cases c with ⟨h, h1, h2, h3⟩ | ⟨e, h, he⟩ | ⟨h, h9⟩ | ⟨hi, lo, h, hh, hl, hc⟩ <;>
    rw [h]
  · simp [parseStrBody, h1, h2, h3]
  · simp only [shortEsc, List.mem_cons, Prod.mk.injEq, List.not_mem_nil, or_false] at he
    rcases he with ⟨rfl, rfl⟩ | ⟨rfl, rfl⟩ | ⟨rfl, rfl⟩ | ⟨rfl, rfl⟩ | ⟨rfl, rfl⟩ | ⟨rfl, rfl⟩ |
      ⟨rfl, rfl⟩ <;> simp [parseStrBody]
  · have hs : ¬ (55296 ≤ c.toNat ∧ c.toNat < 56320) := by have := char_scalar c; omega
    simp [parseStrBody, hex4Val_hex4 _ _ h9, hs]
  · simp only [List.cons_append, List.append_assoc]
    rw [parseStrBody]
    simp only [show ('\\' : Char) ≠ '"' by decide, if_false, if_true,
      hex4Val_hex4 hi _ (by omega), hex4Val_hex4 lo _ (by omega), hh, hl, hc, and_self,
      Char.ofNat_toNat]

theorem length_le_escBody (s : Str) : s.length ≤ (escBody s).length := by
  induction s with
  | nil => simp
  | cons c cs ih =>
    have : 1 ≤ (escChar c).length := by
      rcases escChar_cases c with ⟨h, _⟩ | ⟨e, h, _⟩ | ⟨h, _⟩ | ⟨hi, lo, h, _⟩ <;> simp [h]
    simp only [escBody, List.length_cons, List.length_append]
    omega

/-- fuel: one unit per character and one for the closing quote -/
theorem parseStrBody_escBody : ∀ (s : Str) (fuel : Nat) (rest acc : Str), s.length < fuel →
    parseStrBody fuel (escBody s ++ '"' :: rest) acc = some (acc.reverse ++ s, rest)
  | _, 0, _, _, hf => by omega
  | [], f + 1, rest, acc, _ => by simp [escBody, parseStrBody]
  | c :: cs, f + 1, rest, acc, hf => by
    simp only [escBody, List.append_assoc]
    rw [parseStrBody_escChar, parseStrBody_escBody cs f rest (c :: acc) (by simpa using hf)]
    simp

theorem quote_append (s rest : Str) : quote s ++ rest = '"' :: (escBody s ++ '"' :: rest) := by
  simp [quote]

/-- the form in which `parseValue` / `parseMembers` call the string reader -/
theorem parseStrBody_quote (s rest : Str) :
    parseStrBody ((escBody s ++ '"' :: rest).length + 1) (escBody s ++ '"' :: rest) [] =
      some (s, rest) := by
  have := length_le_escBody s
  rw [parseStrBody_escBody s _ rest [] (by simp only [List.length_append, List.length_cons]; omega)]
  simp

/-- what may follow a number token: anything but a digit, `.`, `e`, `E` -/
def numEnd : Str → Bool
  | [] => true
  | c :: _ => !(c.isDigit || c = '.' || c = 'e' || c = 'E')

theorem numEnd_cons {c : Char} {r : Str} (h : numEnd (c :: r) = true) : c.isDigit = false := by
  simp [numEnd] at h
  simp [h]

theorem parseDigits_append (ds rest : Str) (acc : Nat) (hd : ∀ c ∈ ds, c.isDigit = true)
    (hr : ∀ c r, rest = c :: r → c.isDigit = false) :
    parseDigits (ds ++ rest) acc = (Nat.ofDigitChars 10 ds acc, rest) := by
  induction ds generalizing acc with
  | nil =>
    cases rest with
    | nil => simp [parseDigits]
    | cons c r => simp [parseDigits, hr c r rfl]
  | cons d ds ih =>
    have h1 : d.isDigit = true := hd d (by simp)
    simp only [List.cons_append, parseDigits, h1, if_true, Nat.ofDigitChars_cons]
    rw [ih _ (fun c hc => hd c (by simp [hc])), Nat.mul_comm]
    rfl

theorem parseNum_toDigits (neg : Bool) (n : Nat) (rest : Str) (h : numEnd rest = true) :
    parseNum ((if neg then ['-'] else []) ++ (Nat.toDigits 10 n ++ rest)) =
      some (.num (if neg then -(n : Int) else (n : Int)), rest) := by
  have hp := parseDigits_append _ rest 0 (toDigits_isDigit n) (by rintro c r rfl; exact numEnd_cons h)
  rw [Nat.ofDigitChars_ten_toDigits] at hp
  obtain ⟨d, tl, hds, h1⟩ := toDigits_head n
  rw [hds, List.cons_append] at hp ⊢
  have h2 : d ≠ '-' := ne_of_class h1 (by decide)
  -- after the digits `parseNum` refuses `.`, `e`, `E`: `numEnd rest` says there is none
  revert h
  unfold parseNum
  cases neg <;> simp [h2, h1, hp] <;> (split <;> simp [numEnd])

theorem intText_cases (n : Int) : ∃ m : Nat, (n = m ∧ intText n = Nat.toDigits 10 m) ∨
    (n = -(m : Int) ∧ intText n = '-' :: Nat.toDigits 10 m) := by
  by_cases hn : 0 ≤ n
  · exact ⟨n.toNat, .inl ⟨by omega, by simp [intText, Int.repr_eq_if, hn]⟩⟩
  · exact ⟨(-n).toNat, .inr ⟨by omega, by simp [intText, Int.repr_eq_if, hn]⟩⟩

theorem parseNum_intText (n : Int) (rest : Str) (h : numEnd rest = true) :
    parseNum (intText n ++ rest) = some (.num n, rest) := by
  obtain ⟨m, ⟨rfl, hm⟩ | ⟨rfl, hm⟩⟩ := intText_cases n <;> rw [hm]
  · exact parseNum_toDigits false m rest h
  · exact parseNum_toDigits true m rest h

theorem intText_head (n : Int) : ∃ c tl, intText n = c :: tl ∧ (c = '-' ∨ c.isDigit = true) := by
  obtain ⟨m, ⟨_, hm⟩ | ⟨_, hm⟩⟩ := intText_cases n
  · obtain ⟨c, tl, h, hc⟩ := toDigits_head m
    exact ⟨c, tl, by rw [hm, h], .inr hc⟩
  · exact ⟨'-', _, hm, .inl rfl⟩

theorem numHead_facts (c : Char) (h : c = '-' ∨ c.isDigit = true) :
    isWs c = false ∧ c ≠ ']' ∧ c ≠ '}' ∧ c ≠ '"' ∧ c ≠ '[' ∧ c ≠ '{' ∧ c ≠ 't' ∧ c ≠ 'f' ∧
      c ≠ 'n' := by
  rcases h with h | h
  · subst h; decide
  · exact ⟨isDigit_not_ws h, ne_of_class h (by decide), ne_of_class h (by decide),
      ne_of_class h (by decide), ne_of_class h (by decide), ne_of_class h (by decide),
      ne_of_class h (by decide), ne_of_class h (by decide), ne_of_class h (by decide)⟩

/-- the first character of a value's text: not white space, not a closing bracket -/
def HeadOk (l : Str) : Prop := ∃ c tl, l = c :: tl ∧ isWs c = false ∧ c ≠ ']' ∧ c ≠ '}'

theorem HeadOk.append {l : Str} (h : HeadOk l) (r : Str) : HeadOk (l ++ r) := by
  obtain ⟨c, tl, rfl, h⟩ := h
  exact ⟨c, tl ++ r, rfl, h⟩

theorem HeadOk.skipWs {l : Str} (h : HeadOk l) : skipWs l = l := by
  obtain ⟨c, tl, rfl, h, _⟩ := h
  exact skipWs_head c tl h

theorem HeadOk.skipWs_space {l : Str} (h : HeadOk l) : Asl.skipWs (' ' :: l) = l := by
  rw [Asl.skipWs_space, h.skipWs]

theorem render_head (j : Json) : HeadOk (render j) := by
  cases j with
  | null => exact ⟨'n', "ull".toList, by simp [render], by decide⟩
  | bool b =>
    cases b
    · exact ⟨'f', "alse".toList, by simp [render], by decide⟩
    · exact ⟨'t', "rue".toList, by simp [render], by decide⟩
  | num n =>
    obtain ⟨c, tl, hc, h⟩ := intText_head n
    have := numHead_facts c h
    exact ⟨c, tl, by simp [render, hc], this.1, this.2.1, this.2.2.1⟩
  | str s => exact ⟨'"', _, by rw [render, quote], by decide⟩
  | arr xs => exact ⟨'[', _, by rw [render], by decide⟩
  | obj kvs => exact ⟨'{', _, by rw [render], by decide⟩

theorem renderL_head (x : Json) (xs : List Json) : HeadOk (renderL (x :: xs)) := by
  cases xs with
  | nil => simpa [renderL] using render_head x
  | cons y r => simpa [renderL] using (render_head x).append _

theorem renderM_head (k : Str) (v : Json) (kvs : List (Str × Json)) :
    HeadOk (renderM ((k, v) :: kvs)) := by
  cases kvs <;> exact ⟨'"', _, by rw [renderM, quote]; rfl, by decide⟩

theorem Json.size_pos (j : Json) : 1 ≤ j.size := by
  cases j <;> simp [Json.size]

theorem parseValue_intText (f : Nat) (cs : Str) (n : Int) (rest : Str) (hr : numEnd rest = true)
    (h : skipWs cs = intText n ++ rest) : parseValue (f + 1) cs = some (.num n, rest) := by
  obtain ⟨c, tl, hc, hh⟩ := intText_head n
  have hp := parseNum_intText n rest hr
  rw [hc] at h hp
  simp only [parseValue, h, List.cons_append, numHead_facts c hh, if_false]
  exact hp

theorem parseValue_quote (f : Nat) (cs s rest : Str) (h : skipWs cs = quote s ++ rest) :
    parseValue (f + 1) cs = some (.str s, rest) := by
  simp only [parseValue, h, quote_append, if_true, parseStrBody_quote]

theorem parseValue_bracket (f : Nat) (cs body : Str) (h : skipWs cs = '[' :: body)
    (hb : HeadOk body) (xs : List Json) (rest : Str) (he : parseElems f body = some (xs, rest)) :
    parseValue (f + 1) cs = some (.arr xs, rest) := by
  obtain ⟨c, tl, rfl, hw, hc, _⟩ := hb
  rw [parseValue]
  simp only [h, show ('[' : Char) ≠ '"' by decide, if_false, if_true, skipWs_head c tl hw, he]
  split
  · rename_i heq; cases heq; exact absurd rfl hc
  · rfl

theorem parseValue_brace (f : Nat) (cs body : Str) (h : skipWs cs = '{' :: body)
    (hb : HeadOk body) (kvs : List (Str × Json)) (rest : Str)
    (he : parseMembers f body = some (kvs, rest)) :
    parseValue (f + 1) cs = some (.obj kvs, rest) := by
  obtain ⟨c, tl, rfl, hw, _, hc⟩ := hb
  rw [parseValue]
  simp only [h, show ('{' : Char) ≠ '"' by decide, show ('{' : Char) ≠ '[' by decide, if_false,
    if_true, skipWs_head c tl hw, he]
  split
  · rename_i heq; cases heq; exact absurd rfl hc
  · rfl

mutual
/-- Fuel: a value costs one unit in `parseValue` and, as an element or member, one more in
`parseElems` / `parseMembers`; hence `2 * size`. -/
theorem parseValue_render : (j : Json) → (fuel : Nat) → (cs rest : Str) →
    2 * j.size ≤ fuel → numEnd rest = true → skipWs cs = render j ++ rest →
    parseValue fuel cs = some (j, rest)
  | j, 0, _, _, hf, _, _ => by have := Json.size_pos j; omega
  | .null, f + 1, cs, rest, _, _, hcs => by simp [parseValue, hcs, render, startsWith]
  | .bool true, f + 1, cs, rest, _, _, hcs => by simp [parseValue, hcs, render, startsWith]
  | .bool false, f + 1, cs, rest, _, _, hcs => by simp [parseValue, hcs, render, startsWith]
  | .num n, f + 1, cs, rest, _, hr, hcs => parseValue_intText f cs n rest hr hcs
  | .str s, f + 1, cs, rest, _, _, hcs => parseValue_quote f cs s rest hcs
  | .arr [], f + 1, cs, rest, _, _, hcs => by
    simp [parseValue, hcs, render, renderL, skipWs_head ']' rest (by decide)]
  | .arr (x :: xs), f + 1, cs, rest, hf, _, hcs => by
    have hb := (renderL_head x xs).append (']' :: rest)
    exact parseValue_bracket f cs _ (by simpa [render] using hcs) hb _ _
      (parseElems_renderL (x :: xs) (by simp) f _ rest (by simp only [Json.size] at hf; omega)
        hb.skipWs)
  | .obj [], f + 1, cs, rest, _, _, hcs => by
    simp [parseValue, hcs, render, renderM, skipWs_head '}' rest (by decide)]
  | .obj ((k, v) :: kvs), f + 1, cs, rest, hf, _, hcs => by
    have hb := (renderM_head k v kvs).append ('}' :: rest)
    exact parseValue_brace f cs _ (by simpa [render] using hcs) hb _ _
      (parseMembers_renderM ((k, v) :: kvs) (by simp) f _ rest
        (by simp only [Json.size] at hf; omega) hb.skipWs)
theorem parseElems_renderL : (xs : List Json) → xs ≠ [] → (fuel : Nat) → (cs rest : Str) →
    2 * Json.sizeL xs + 1 ≤ fuel → skipWs cs = renderL xs ++ ']' :: rest →
    parseElems fuel cs = some (xs, rest)
  | [], h, _, _, _, _, _ => absurd rfl h
  | _ :: _, _, 0, _, _, hf, _ => by omega
  | [x], _, f + 1, cs, rest, hf, hcs => by
    have ih := parseValue_render x f cs (']' :: rest)
      (by simp only [Json.sizeL] at hf; omega) rfl hcs
    simp [parseElems, ih, skipWs_head ']' rest (by decide)]
  | x :: y :: r, _, f + 1, cs, rest, hf, hcs => by
    have hx := Json.size_pos x
    simp only [renderL, List.append_assoc, List.cons_append] at hcs
    have ih := parseValue_render x f cs _
      (by simp only [Json.sizeL] at hf ⊢; omega) rfl hcs
    have ih2 := parseElems_renderL (y :: r) (by simp) f _ rest
      (by simp only [Json.sizeL] at hf ⊢; omega) ((renderL_head y r).append _).skipWs_space
    simp [parseElems, ih, skipWs_head ',' _ (by decide), ih2]
theorem parseMembers_renderM : (kvs : List (Str × Json)) → kvs ≠ [] → (fuel : Nat) →
    (cs rest : Str) → 2 * Json.sizeM kvs + 1 ≤ fuel → skipWs cs = renderM kvs ++ '}' :: rest →
    parseMembers fuel cs = some (kvs, rest)
  | [], h, _, _, _, _, _ => absurd rfl h
  | _ :: _, _, 0, _, _, hf, _ => by omega
  | [(k, v)], _, f + 1, cs, rest, hf, hcs => by
    simp only [renderM, quote, List.append_assoc, List.cons_append, List.nil_append] at hcs
    have ih := parseValue_render v f _ ('}' :: rest)
      (by simp only [Json.sizeM] at hf; omega) rfl
      ((render_head v).append _).skipWs_space
    simp only [parseMembers, hcs]
    rw [parseStrBody_quote]
    simp [skipWs_head ':' _ (by decide), ih, skipWs_head '}' rest (by decide)]
  | (k, v) :: y :: r, _, f + 1, cs, rest, hf, hcs => by
    have hx := Json.size_pos v
    simp only [renderM, quote, List.append_assoc, List.cons_append, List.nil_append] at hcs
    have ih := parseValue_render v f _ (',' :: ' ' :: (renderM (y :: r) ++ '}' :: rest))
      (by simp only [Json.sizeM] at hf ⊢; omega) rfl
      ((render_head v).append _).skipWs_space
    have ih2 := parseMembers_renderM (y :: r) (by simp) f _ rest
      (by simp only [Json.sizeM] at hf ⊢; omega) ((renderM_head y.1 y.2 r).append _).skipWs_space
    simp only [parseMembers, hcs]
    rw [parseStrBody_quote]
    simp [skipWs_head ':' _ (by decide), ih, skipWs_head ',' _ (by decide), ih2]
end

/-! ### the fuel `parseJson` supplies is enough -/

mutual
theorem Json.size_le_render : (j : Json) → 2 * j.size ≤ (render j).length + 1
  | .null => by simp [Json.size, render]
  | .bool true => by simp [Json.size, render]
  | .bool false => by simp [Json.size, render]
  | .num n => by obtain ⟨c, tl, h, _⟩ := intText_head n; simp [Json.size, render, h]
  | .str s => by simp [Json.size, render, quote]
  | .arr xs => by
    have := sizeL_le_renderL xs
    simp only [Json.size, render, List.length_cons, List.length_append, List.length_nil]; omega
  | .obj kvs => by
    have := sizeM_le_renderM kvs
    simp only [Json.size, render, List.length_cons, List.length_append, List.length_nil]; omega
theorem sizeL_le_renderL : (xs : List Json) → 2 * Json.sizeL xs ≤ (renderL xs).length + 1
  | [] => by simp [Json.sizeL]
  | [x] => by have := Json.size_le_render x; simp only [Json.sizeL, renderL]; omega
  | x :: y :: r => by
    have := Json.size_le_render x
    have := sizeL_le_renderL (y :: r)
    simp only [Json.sizeL, renderL, List.length_cons, List.length_append] at *; omega
theorem sizeM_le_renderM : (kvs : List (Str × Json)) →
    2 * Json.sizeM kvs ≤ (renderM kvs).length + 1
  | [] => by simp [Json.sizeM]
  | [(k, v)] => by
    have := Json.size_le_render v
    simp only [Json.sizeM, renderM, List.length_cons, List.length_append]; omega
  | (k, v) :: y :: r => by
    have := Json.size_le_render v
    have := sizeM_le_renderM (y :: r)
    simp only [Json.sizeM, renderM, List.length_cons, List.length_append] at *; omega
end

mutual
/-- the member names of every object, at any depth, are pairwise distinct -/
def Json.wf : Json → Bool
  | .arr xs => Json.wfL xs
  | .obj kvs => Json.wfM kvs
  | _ => true
def Json.wfL : List Json → Bool
  | [] => true
  | x :: xs => x.wf && Json.wfL xs
def Json.wfM : List (Str × Json) → Bool
  | [] => true
  | (k, v) :: kvs => !objHas kvs k && v.wf && Json.wfM kvs
end

theorem foldl_objSet_distinct (kvs acc : List (Str × Json)) (hd : Json.wfM kvs = true)
    (ha : ∀ kv ∈ kvs, objHas acc kv.1 = false) :
    kvs.foldl (fun acc (kv : Str × Json) => objSet acc kv.1 kv.2) acc = acc ++ kvs := by
  induction kvs generalizing acc with
  | nil => simp
  | cons a kvs ih =>
    obtain ⟨k, v⟩ := a
    simp only [Json.wfM, Bool.and_eq_true, Bool.not_eq_true', objHas_eq_any, List.any_eq_false] at hd
    rw [List.foldl_cons, objSet_append_new acc k v (ha (k, v) (by simp)), ih _ hd.2]
    · simp
    · intro kv hkv
      -- fresh in `acc` by `ha`, and not `k`: `k` does not occur again in `kvs`
      rw [objHas_eq_any, List.any_append, ← objHas_eq_any, ha kv (by simp [hkv])]
      simpa [eq_comm] using hd.1.1 kv hkv

theorem dedupMembers_wf (kvs : List (Str × Json)) (h : Json.wfM kvs = true) :
    dedupMembers kvs = kvs := by
  simpa [dedupMembers] using foldl_objSet_distinct kvs [] h (fun _ _ => rfl)

theorem objHas_normaliseM (kvs : List (Str × Json)) (k : Str) :
    objHas (normaliseM kvs) k = objHas kvs k := by
  induction kvs with
  | nil => rfl
  | cons a kvs ih =>
    simp only [objHas_eq_any] at ih
    simp [objHas_eq_any, normaliseM, ih]

mutual
theorem normalise_wf : (j : Json) → j.wf = true → normalise j = j
  | .null, _ => by simp [normalise]
  | .bool _, _ => by simp [normalise]
  | .num _, _ => by simp [normalise]
  | .str _, _ => by simp [normalise]
  | .arr xs, h => by
    simp only [Json.wf] at h
    simp [normalise, normaliseL_wf xs h]
  | .obj kvs, h => by
    simp only [Json.wf] at h
    rw [normalise, normaliseM_wf kvs h, dedupMembers_wf kvs h]
theorem normaliseL_wf : (xs : List Json) → Json.wfL xs = true → normaliseL xs = xs
  | [], _ => by simp [normaliseL]
  | x :: xs, h => by
    simp only [Json.wfL, Bool.and_eq_true] at h
    simp [normaliseL, normalise_wf x h.1, normaliseL_wf xs h.2]
theorem normaliseM_wf : (kvs : List (Str × Json)) → Json.wfM kvs = true → normaliseM kvs = kvs
  | [], _ => by simp [normaliseM]
  | (k, v) :: kvs, h => by
    simp only [Json.wfM, Bool.and_eq_true] at h
    simp [normaliseM, normalise_wf v h.1.2, normaliseM_wf kvs h.2]
end

/-- The reader returns exactly the value printed, and `parseJson` then merges repeated member
names (last value, at the first position). -/
theorem parseJson_render_any (j : Json) : parseJson (render j) = some (normalise j) := by
  have h := parseValue_render j ((render j).length + 1) (render j) []
    (by have := Json.size_le_render j; omega) rfl (by simpa using (render_head j).skipWs)
  simp [parseJson, h, skipWs]

/-- `json.loads(json.dumps(x)) == x` for every value whose member names are pairwise distinct
at every level (as in every Python `dict`); strings and names may contain any characters. -/
theorem parseJson_render (j : Json) (h : Json.wf j = true) : parseJson (render j) = some j := by
  rw [parseJson_render_any, normalise_wf j h]

/-- distinctness is needed: a repeated name is merged (last value, first position) -/
example : parseJson (render (.obj [("a".toList, .num 1), ("a".toList, .num 2)])) =
    some (.obj [("a".toList, .num 2)]) := by
  rw [parseJson_render_any]; rfl

/-- characters of every escape class, a surrogate pair included -/
example : Json.wf (.obj [("k\"\\\n".toList, .arr [.str "é\x7f\x08😀 /".toList, .num (-12), .null]),
    ("".toList, .obj [])]) = true := by decide +kernel

/-! ### the leading-zero screen of `States.StringToJson` passes printed text -/

theorem lz_str_plain (c : Char) (rest : Str) (h1 : c ≠ '"') (h2 : c ≠ '\\') :
    leadingZero true false false (c :: rest) = leadingZero true false false rest := by
  simp [leadingZero, h1, h2]

theorem lz_str_esc (e : Char) (rest : Str) :
    leadingZero true false false ('\\' :: e :: rest) = leadingZero true false false rest := by
  simp [leadingZero]

theorem lz_hex4 (n : Nat) (rest : Str) :
    leadingZero true false false (hex4 n ++ rest) = leadingZero true false false rest := by
  have hd (m : Nat) := hexDigit_ne (m % 16) (Nat.mod_lt _ (by decide))
  simp only [hex4, List.cons_append, List.nil_append, lz_str_plain _ _ (hd _).1 (hd _).2]

theorem lz_escChar (c : Char) (rest : Str) :
    leadingZero true false false (escChar c ++ rest) = leadingZero true false false rest := by
  rcases escChar_cases c with ⟨h, h1, h2, _⟩ | ⟨e, h, _⟩ | ⟨h, _⟩ | ⟨hi, lo, h, _⟩ <;> rw [h]
  · exact lz_str_plain c rest h1 h2
  · exact lz_str_esc _ _
  · exact (lz_str_esc _ _).trans (lz_hex4 _ _)
  · simp only [List.cons_append, List.append_assoc]
    rw [lz_str_esc, lz_hex4, lz_str_esc, lz_hex4]

theorem lz_escBody (s rest : Str) :
    leadingZero true false false (escBody s ++ '"' :: rest) = leadingZero false false false rest := by
  induction s with
  | nil => simp [escBody, leadingZero]
  | cons c cs ih => simp only [escBody, List.append_assoc]; rw [lz_escChar, ih]

theorem lz_quote (s rest : Str) :
    leadingZero false false false (quote s ++ rest) = leadingZero false false false rest := by
  simp [quote_append, leadingZero, lz_escBody]

theorem toDigits_head_ne_zero (n : Nat) (h : 0 < n) :
    ∃ d tl, Nat.toDigits 10 n = d :: tl ∧ d ≠ '0' := by
  induction n using Nat.strongRecOn with
  | _ n ih =>
    by_cases hn : n < 10
    · exact ⟨n.digitChar, [], Nat.toDigits_of_lt_base hn, mt Nat.digitChar_eq_zero.mp (by omega)⟩
    · obtain ⟨d, tl, hd, hz⟩ := ih (n / 10) (by omega) (by omega)
      exact ⟨d, tl ++ [Nat.digitChar (n % 10)],
        by rw [Nat.toDigits_of_base_le (by decide) (by omega), hd]; rfl, hz⟩

/-- the hypothesis is the negation of what makes the screen fire: a `0` that begins a number
and has a digit after it -/
theorem lz_digit (d : Char) (cs : Str) (q : Bool) (hd : d.isDigit = true)
    (h : q = true ∨ d ≠ '0' ∨ numEnd cs = true) :
    leadingZero false false q (d :: cs) = leadingZero false false true cs := by
  have h2 : d ≠ '"' := ne_of_class hd (by decide)
  rcases h with rfl | h | h
  · simp [leadingZero, h2, hd]
  · simp [leadingZero, h2, hd, h]
  · cases cs with
    | nil => simp [leadingZero, h2]
    | cons c r =>
      simp [leadingZero, h2, hd, numEnd_cons h]

theorem lz_digits (ds rest : Str) (hd : ∀ c ∈ ds, c.isDigit = true) :
    leadingZero false false true (ds ++ rest) = leadingZero false false true rest := by
  induction ds with
  | nil => rfl
  | cons d ds ih =>
    rw [List.cons_append, lz_digit d _ true (hd d (by simp)) (.inl rfl)]
    exact ih fun c hc => hd c (by simp [hc])

theorem lz_numEnd (rest : Str) (h : numEnd rest = true) (q : Bool) :
    leadingZero false false q rest = leadingZero false false false rest := by
  cases rest with
  | nil => rfl
  | cons c r =>
    have : c ≠ '0' := by rintro rfl; simp [numEnd] at h
    simp [leadingZero, this]

theorem lz_toDigits (n : Nat) (rest : Str) (hr : numEnd rest = true) :
    leadingZero false false false (Nat.toDigits 10 n ++ rest) =
      leadingZero false false false rest := by
  by_cases hn : n = 0
  · subst hn
    rw [Nat.toDigits_zero, List.singleton_append,
      lz_digit '0' rest false (by decide) (.inr (.inr hr)), lz_numEnd rest hr]
  · have hd := toDigits_isDigit n
    obtain ⟨d, tl, hds, hz⟩ := toDigits_head_ne_zero n (by omega)
    rw [hds] at hd ⊢
    rw [List.cons_append, lz_digit d _ false (hd d (by simp)) (.inr (.inl hz)),
      lz_digits tl rest (fun c hc => hd c (by simp [hc])), lz_numEnd rest hr]

theorem lz_intText (n : Int) (rest : Str) (hr : numEnd rest = true) :
    leadingZero false false false (intText n ++ rest) = leadingZero false false false rest := by
  obtain ⟨m, ⟨_, hm⟩ | ⟨_, hm⟩⟩ := intText_cases n <;> rw [hm]
  · exact lz_toDigits m rest hr
  · simp only [List.cons_append, leadingZero]
    simpa using lz_toDigits m rest hr

mutual
theorem lz_render : (j : Json) → (rest : Str) → numEnd rest = true →
    leadingZero false false false (render j ++ rest) = leadingZero false false false rest
  | .null, rest, _ => by simp [render, leadingZero]
  | .bool true, rest, _ => by simp [render, leadingZero]
  | .bool false, rest, _ => by simp [render, leadingZero]
  | .num n, rest, hr => by simpa [render] using lz_intText n rest hr
  | .str s, rest, _ => by simpa [render] using lz_quote s rest
  | .arr xs, rest, _ => by
    have := lz_renderL xs rest
    simpa [render, leadingZero] using this
  | .obj kvs, rest, _ => by
    have := lz_renderM kvs rest
    simpa [render, leadingZero] using this
theorem lz_renderL : (xs : List Json) → (rest : Str) →
    leadingZero false false false (renderL xs ++ ']' :: rest) = leadingZero false false false rest
  | [], rest => by simp [renderL, leadingZero]
  | [x], rest => by
    rw [renderL, lz_render x _ rfl]
    simp [leadingZero]
  | x :: y :: r, rest => by
    have := lz_renderL (y :: r) rest
    simp only [renderL, List.append_assoc, List.cons_append]
    rw [lz_render x _ rfl]
    simpa [leadingZero] using this
theorem lz_renderM : (kvs : List (Str × Json)) → (rest : Str) →
    leadingZero false false false (renderM kvs ++ '}' :: rest) = leadingZero false false false rest
  | [], rest => by simp [renderM, leadingZero]
  | [(k, v)], rest => by
    simp only [renderM, List.append_assoc, List.cons_append]
    rw [lz_quote]
    have := lz_render v ('}' :: rest) rfl
    simpa [leadingZero] using this
  | (k, v) :: y :: r, rest => by
    have ih := lz_renderM (y :: r) rest
    simp only [renderM, List.append_assoc, List.cons_append]
    rw [lz_quote]
    have := lz_render v (',' :: ' ' :: (renderM (y :: r) ++ '}' :: rest)) rfl
    simpa [leadingZero, ih] using this
end

/-- printed text never has a number with a leading zero -/
theorem leadingZero_render (j : Json) : leadingZero false false false (render j) = false := by
  have := lz_render j [] rfl
  simpa [leadingZero] using this

end Asl
