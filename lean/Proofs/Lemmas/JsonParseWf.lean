/- what the JSON reader returns is well formed (member names pairwise distinct at every level),
so the printer/parser round trip of JsonRoundTrip.lean applies to every value that was read:
`parseJson t = some d → parseJson (render d) = some d`.  Used by C10 (`create_then_describe`). -/
import Proofs.Lemmas.JsonRoundTrip
namespace Asl

theorem wfM_objSet (acc : List (Str × Json)) (k : Str) (v : Json)
    (ha : Json.wfM acc = true) (hv : v.wf = true) : Json.wfM (objSet acc k v) = true := by
  fun_induction objSet acc k v with
  | case1 => simp [Json.wfM, hv, objHas, objGet]
  | case2 =>
    simp only [Json.wfM, Bool.and_eq_true] at ha ⊢
    exact ⟨⟨ha.1.1, hv⟩, ha.2⟩
  | case3 k' _ rest k v h ih =>
    simp only [Json.wfM, Bool.and_eq_true] at ha ⊢
    exact ⟨⟨objHas_objSet_ne rest k k' v (Ne.symm h) ▸ ha.1.1, ha.1.2⟩, ih ha.2 hv⟩

theorem wfM_dedupMembers (kvs : List (Str × Json)) (hk : ∀ kv ∈ kvs, kv.2.wf = true) :
    Json.wfM (dedupMembers kvs) = true :=
  List.foldlRecOn (motive := fun acc => Json.wfM acc = true) kvs _ rfl
    fun acc ha kv hkv => wfM_objSet acc kv.1 kv.2 ha (hk kv hkv)

mutual
/-- `dict` semantics leave no repeated member name anywhere -/
theorem wf_normalise : (j : Json) → (normalise j).wf = true
  | .null => by simp [normalise, Json.wf]
  | .bool _ => by simp [normalise, Json.wf]
  | .num _ => by simp [normalise, Json.wf]
  | .str _ => by simp [normalise, Json.wf]
  | .arr xs => by
    simp only [normalise, Json.wf]
    exact wfL_normaliseL xs
  | .obj kvs => by
    simp only [normalise, Json.wf]
    exact wfM_dedupMembers _ (vals_wf_normaliseM kvs)
theorem wfL_normaliseL : (xs : List Json) → Json.wfL (normaliseL xs) = true
  | [] => by simp [normaliseL, Json.wfL]
  | x :: xs => by
    simp [normaliseL, Json.wfL, wf_normalise x, wfL_normaliseL xs]
theorem vals_wf_normaliseM : (kvs : List (Str × Json)) → ∀ kv ∈ normaliseM kvs, kv.2.wf = true
  | [] => by simp [normaliseM]
  | (k, v) :: kvs => by
    intro kv h
    simp only [normaliseM, List.mem_cons] at h
    rcases h with h | h
    · subst h; exact wf_normalise v
    · exact vals_wf_normaliseM kvs kv h
end

theorem parseJson_wf (t : Str) (d : Json) (h : parseJson t = some d) : d.wf = true := by
  revert h
  fun_cases parseJson t <;> rintro ⟨⟩
  exact wf_normalise _

/-- `json.loads(json.dumps(d)) == d` for every `d` that is itself the result of `json.loads` -/
theorem parseJson_render_of_parsed (t : Str) (d : Json) (h : parseJson t = some d) :
    parseJson (render d) = some d :=
  parseJson_render d (parseJson_wf t d h)

end Asl
