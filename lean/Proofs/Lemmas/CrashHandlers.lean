/-
What the handlers of the crash protocol (AslModel/Crash.lean) do, for every class of skeletons: their operation lists, the
configuration after them, that their order loses nothing at any cut; `step` with the switches off as one function per
operation; and the liveness argument all classes share: what the canonical schedule picks is enabled, and a falling measure
brings the run to rest.  The definitions C04's statements are made with (the measure `mu`, `Ended`) come first.
-/
import Proofs.Lemmas.CrashVol
namespace Asl.Crash

def Sk.seq : Sk → Bool
  | .done => true
  | .task _ r => r.seq
  | .step r => r.seq
  | .wait r => r.seq
  | _ => false

mutual
/-- visits still to come (a fan-out state: its own two handler invocations, its branches, one unit per branch for the
join, and what follows) -/
def visits : Sk → Nat
  | .task _ r => visits r + 1
  | .step r => visits r + 1
  | .wait r => visits r + 1
  | .par _ brs r => brVisits brs + visits r + 2
  | _ => 0
def brVisits : Br → Nat
  | .nil => 0
  | .cons b bs => visits b + 1 + brVisits bs
end

/-- what is left of the sequence an event stands in, its own visit included -/
def todoOf : EvKind → Sk
  | .visit t _ _ _ => t
  | .reenter _ _ _ _ => .done

/-- eight units per visit to come pay for its handler invocations, each of which lowers `mu`: delivery − 5 (then a timer + 3,
or the request's reply + 1), deferred handler − 3 (+ 1), reply − 1, end of the visit − 3 (`8 v + 1` becomes `8 (v − 1) + 6`) -/
def evW (e : QEv) : Nat := 8 * visits (todoOf e.kind) + (if e.unacked then 1 else 6)

def mu (c : Cfg) : Nat :=
  (c.evq.map evW).sum + 3 * c.timers.length + (c.rpq.filter (fun r => !r.unacked)).length

mutual
def tasksIn : Sk → Nat
  | .task _ r => tasksIn r + 1
  | .step r => tasksIn r
  | .wait r => tasksIn r
  | .par _ brs r => brTasks brs + tasksIn r
  | .child _ sub r => tasksIn sub + tasksIn r + 1
  | _ => 0
def brTasks : Br → Nat
  | .nil => 0
  | .cons b bs => tasksIn b + brTasks bs
end

structure Ended (N : Nat) (c : Cfg) : Prop where
  evq : c.evq = []
  rpq : c.rpq = []
  notes : c.notes = 1
  sentnd : c.sent.Nodup
  sentlen : c.sent.length = N
  timers : c.timers = []
  pending : c.pending = []
  orphans : c.orphans = []
  joins : c.joins = []

def ackRof : Option Nat → List Act
  | some r => [.ackRp r]
  | none => []

theorem fuelOf_succ (c : Cfg) : ∃ n, fuelOf c = n + 2 := ⟨_, rfl⟩

theorem advance_done_top {q : Quirks} {c : Cfg} {fuel ev : Nat} {rp : Option Nat} {v : Vol} (hj : v.joins = []) :
    advance q c (fuel + 1) ev .done [] none rp v = ([.note true, .ackEv ev] ++ ackRof rp, v) := by
  unfold advance
  simp only [hj, List.any_nil, Bool.false_eq_true, if_false, List.isEmpty_nil, Bool.not_true, Bool.and_false]
  rfl

theorem inDead_top {c : Cfg} {v : Vol} {m : QEv} {t : Sk} {start : Bool} (hk : m.kind = .visit t [] start none)
    (hf : c.failed = 0) : inDeadJoin Quirks.none c v m = true ↔ 0 < c.notes ∧ m.redelivered = false := by
  simp [inDeadJoin, evJids, evOwner, hk, hf]

theorem dropEv_top {q : Quirks} {c : Cfg} {v : Vol} {m : QEv} {t : Sk} {start : Bool} (hk : m.kind = .visit t [] start none) :
    dropEv q c v m = ([.ackEv m.id], v) := by
  simp [dropEv, evJids, hk]

def Sk.isVisit : Sk → Bool
  | .task _ _ => true
  | .step _ => true
  | .wait _ => true
  | .par _ _ _ => true
  | .child _ _ _ => true
  | _ => false

theorem advance_next {q : Quirks} {c : Cfg} {fuel ev : Nat} {rest : Sk} {stack : List Frame} {owner : Option Nat}
    {rp : Option Nat} {v : Vol} (h : rest.isVisit = true) :
    advance q c (fuel + 1) ev rest stack owner rp v =
      ([.pubEv (.visit rest stack false owner), .ackEv ev] ++ ackRof rp, v) := by
  cases rest <;> first | rfl | cases h

def preOf (start : Bool) : List Act := if start then [.note false] else []

theorem pre_top (start : Bool) :
    (if start then [if (none : Option Nat).isSome then Act.cnote false else Act.note false] else []) = preOf start := rfl

def ackedRpq (rp : Option Nat) (l : List QRp) : List QRp :=
  match rp with
  | none => l
  | some r => removeFirst (fun x => x.corr == r && x.unacked) l

theorem fold_pre (c : Cfg) (start : Bool) :
    (preOf start).foldl Cfg.act c = { c with running := c.running + (if start then 1 else 0) } := by
  cases start <;> simp [preOf, Cfg.act]

theorem fold_next (c : Cfg) (start : Bool) (k : EvKind) (id : Nat) (rp : Option Nat) :
    List.foldl Cfg.act c (preOf start ++ ([Act.pubEv k, Act.ackEv id] ++ ackRof rp)) =
      { c with evq := (c.evq ++ [({ id := c.nextId, kind := k } : QEv)]).filter (ackP id), nextId := c.nextId + 1,
               batches := c.batches ++ batchKey k, running := c.running + (if start then 1 else 0),
               rpq := ackedRpq rp c.rpq } := by
  rw [List.foldl_append, fold_pre]
  cases rp <;> rfl

theorem fold_end (c : Cfg) (start : Bool) (id : Nat) (rp : Option Nat) :
    List.foldl Cfg.act c (preOf start ++ ([Act.note true, Act.ackEv id] ++ ackRof rp)) =
      { c with evq := c.evq.filter (ackP id), notes := c.notes + 1, running := c.running + (if start then 1 else 0),
               rpq := ackedRpq rp c.rpq } := by
  rw [List.foldl_append, fold_pre]
  cases rp <;> rfl

theorem fold_send_pre (c : Cfg) (start : Bool) (id : Nat) :
    List.foldl Cfg.act c ([Act.pubReq id] ++ preOf start) =
      { c with sent := c.sent ++ [id], rpq := c.rpq ++ [({ corr := id } : QRp)], running := c.running + (if start then 1 else 0) } := by
  cases start <;> simp [preOf, Cfg.act]

/-- `ok` does not look at what `preOf` changes (the count of running executions) -/
theorem ok_pre {K : EvKind → Prop} {c : Cfg} (start : Bool) {acts : List Act}
    (h : ∀ d : Cfg, d.evq = c.evq → d.rpq = c.rpq → d.sent = c.sent → d.nextId = c.nextId → d.notes = c.notes → ok K d acts) :
    ok K c (preOf start ++ acts) := by
  cases start
  · exact h c rfl rfl rfl rfl rfl
  · exact ⟨trivial, h _ rfl rfl rfl rfl rfl⟩

theorem ok_pre_only {K : EvKind → Prop} (c : Cfg) (start : Bool) : ok K c (preOf start) := by
  cases start
  · trivial
  · exact ⟨trivial, trivial⟩

/-- in order when something else is left or the terminal notification is out (`hal`): no event has the id of `m` once `m` is gone -/
theorem ok_acks {K : EvKind → Prop} {d : Cfg} {l1 l2 l3 : List QEv} {m : QEv} (rp : Option Nat) (he : d.evq = l1 ++ m :: l2 ++ l3)
    (h1 : ∀ e ∈ l1, e.id ≠ m.id) (h2 : ∀ e ∈ l2, e.id ≠ m.id) (h3 : ∀ e ∈ l3, e.id ≠ m.id) (hm : m.unacked = true)
    (hal : 1 ≤ d.notes ∨ ∃ p ∈ evK d, p.1 ≠ m.id) (hans : ∀ r, rp = some r → r = m.id) :
    ok K d ([.ackEv m.id] ++ ackRof rp) := by
  refine ⟨hal, ?_⟩
  cases rp with
  | none => trivial
  | some r =>
    obtain rfl := hans r rfl
    refine ⟨?_, trivial⟩
    show ∀ p ∈ evK (d.act (.ackEv m.id)), p.1 ≠ m.id
    simp only [evK, act_ackEv_evq, he, ack_split h1 h2 h3 hm, List.mem_map, List.mem_append]
    rintro _ ⟨e, (he | he) | he, rfl⟩
    · exact h1 e he
    · exact h2 e he
    · exact h3 e he

theorem ok_next {K : EvKind → Prop} {c : Cfg} {l1 l2 : List QEv} {m : QEv} {k : EvKind} (start : Bool) (rp : Option Nat)
    (he : c.evq = l1 ++ m :: l2) (h1 : ∀ e ∈ l1, e.id ≠ m.id) (h2 : ∀ e ∈ l2, e.id ≠ m.id) (hm : m.unacked = true)
    (hlt : m.id < c.nextId) (hk : K k) (hans : ∀ r, rp = some r → r = m.id) :
    ok K c (preOf start ++ ([.pubEv k, .ackEv m.id] ++ ackRof rp)) := by
  apply ok_pre
  intro d hev _ _ hn _
  rw [← hev] at he; rw [← hn] at hlt
  exact ⟨hk, ok_acks rp (l3 := [{ id := d.nextId, kind := k }]) (by simp [Cfg.act, he]) h1 h2
    (fun e he => List.mem_singleton.mp he ▸ Nat.ne_of_gt hlt) hm
    (.inr ⟨(d.nextId, k), by simp [evK, Cfg.act], Nat.ne_of_gt hlt⟩) hans⟩

theorem ok_end {K : EvKind → Prop} {c : Cfg} {l1 l2 : List QEv} {m : QEv} (start : Bool) (rp : Option Nat)
    (he : c.evq = l1 ++ m :: l2) (h1 : ∀ e ∈ l1, e.id ≠ m.id) (h2 : ∀ e ∈ l2, e.id ≠ m.id) (hm : m.unacked = true)
    (hans : ∀ r, rp = some r → r = m.id) :
    ok K c (preOf start ++ ([.note true, .ackEv m.id] ++ ackRof rp)) := by
  apply ok_pre
  intro d hev _ _ _ _
  rw [← hev] at he
  exact ⟨trivial, ok_acks rp (l3 := []) (by simp [Cfg.act, he]) h1 h2 (by simp) hm (.inl (Nat.le_add_left 1 d.notes)) hans⟩

theorem markEv_split {c : Cfg} {l1 l2 : List QEv} {m : QEv} (he : c.evq = l1 ++ m :: l2) (h1 : ∀ e ∈ l1, e.id ≠ m.id)
    (h2 : ∀ e ∈ l2, e.id ≠ m.id) (hu : m.unacked = false) :
    markEv c m.id = { c with evq := l1 ++ { m with unacked := true } :: l2 } := by
  show { c with evq := c.evq.map (markOne m.id) } = _
  rw [he, List.map_append, List.map_cons, map_markOne_ne h1, map_markOne_ne h2, markOne_ready hu]

theorem withVol_vol (c : Cfg) : c.withVol c.vol = c := rfl

/-! The delivery and the deferred handler are for `Quirks.none` only: `requestFromTimer` changes what they do to a Task.  The
delivery of a reply and the orphan handler read the switches inside `onReply` only: their equations are for every `q`. -/

/-- `c`: the configuration in which `m` is marked as delivered -/
def evHandler (c : Cfg) (m : QEv) : List Act × Vol :=
  match m.kind with
  | .reenter _ _ _ _ => ([], { c.vol with timers := insertNat m.id c.vol.timers })
  | .visit todo stack start owner =>
    let pre : List Act := if start then [if owner.isSome then .cnote false else .note false] else []
    match todo with
    | .task 0 _ | .child 0 _ _ =>
      ((if c.sent.contains m.id then [] else requestOf m.id todo) ++ pre, { c.vol with pending := insertNat m.id c.vol.pending })
    | .task _ _ | .child _ _ _ | .wait _ | .par _ _ _ => (pre, { c.vol with timers := insertNat m.id c.vol.timers })
    | .step rest =>
      -- the step is done at once: on with `rest`
      (pre ++ (advance Quirks.none c (fuelOf c) m.id rest stack owner none c.vol).1,
        (advance Quirks.none c (fuelOf c) m.id rest stack owner none c.vol).2)
    | todo =>
      -- `done` or a failure before any visit: the skeleton itself is the outcome
      (pre ++ (advance Quirks.none c (fuelOf c) m.id todo stack owner none c.vol).1,
        (advance Quirks.none c (fuelOf c) m.id todo stack owner none c.vol).2)

theorem step_ev_eq {c : Cfg} {m : QEv} (hdiv : c.diverged = false) (hf : findEv c m.id false = some m)
    (hno : ∀ s st o, m.kind ≠ .visit .opaque s st o)
    (hdead : inDeadJoin Quirks.none (markEv c m.id) (markEv c m.id).vol m = false) (cut : Option Nat) :
    step Quirks.none c (.ev m.id) cut =
      some ((markEv c m.id).handler (evHandler (markEv c m.id) m).1 (evHandler (markEv c m.id) m).2 cut) := by
  unfold step
  rw [if_neg (by simp [hdiv])]
  simp only [Bool.false_eq_true, if_false, hf, hdead]
  unfold evHandler
  cases hk : m.kind with
  | reenter f s st o => rfl
  | visit todo stack start owner =>
    cases todo with
    | «opaque» => exact absurd hk (hno _ _ _)
    | task rc r => cases rc <;> rfl
    | child rc s r => cases rc <;> rfl
    | _ => rfl

/-- the configuration the deferred handler of `m` starts from, its operations, the memory.  The last arm is a Task visit's: for
the other states `step` is not enabled, and `step_tm_eq` asks for `timerKind`. -/
def tmHandler (c : Cfg) (m : QEv) : Cfg × List Act × Vol :=
  let v : Vol := { c.vol with timers := c.timers.erase m.id }
  match m.kind with
  | .reenter f from_ stack owner => (c, launch f from_ stack owner ++ [.ackEv m.id], v)
  | .visit todo stack _ owner =>
    match todo with
    | .wait rest => (c, advance Quirks.none c (fuelOf c) m.id rest stack owner none v)
    | .par mc brs rest =>
      if brs.toList.isEmpty then (c, advance Quirks.none c (fuelOf c) m.id rest stack owner none v)
      else ({ c with nextJ := c.nextJ + 1 },
        launch { jid := c.nextJ, idx := 0, mc := mc, branches := brs, rest := rest } 0 stack owner ++ [Act.ackEv m.id],
        { v with joins := setJoin v.joins { jid := c.nextJ } })
    | todo => (c, if c.sent.contains m.id then [] else requestOf m.id todo, { v with pending := insertNat m.id v.pending })

theorem step_tm_eq {c : Cfg} {m : QEv} (hdiv : c.diverged = false) (hc : m.id ∈ c.timers) (hf : findEv c m.id true = some m)
    (hk : timerKind m.kind = true)
    (hdead : (!waitVisit m.kind && inDeadJoin Quirks.none c { c.vol with timers := c.timers.erase m.id } m) = false)
    (cut : Option Nat) :
    step Quirks.none c (.tm m.id) cut = some ((tmHandler c m).1.handler (tmHandler c m).2.1 (tmHandler c m).2.2 cut) := by
  have hc' : (!c.timers.contains m.id) = false := by simp [hc]
  unfold step
  rw [if_neg (by simp [hdiv])]
  simp only [Bool.false_eq_true, if_false, hc', hf, hdead]
  unfold tmHandler
  cases hkk : m.kind with
  | reenter f s st o => rfl
  | visit todo stack start owner =>
    cases todo with
    | task _ _ | child _ _ _ | wait _ => rfl
    | par mc brs rest =>
      dsimp only
      cases brs.toList.isEmpty <;> rfl
    | _ => cases hkk ▸ hk

theorem step_ev_drop {c : Cfg} {m : QEv} (hdiv : c.diverged = false) (hf : findEv c m.id false = some m)
    (hdead : inDeadJoin Quirks.none (markEv c m.id) (markEv c m.id).vol m = true) (cut : Option Nat) :
    step Quirks.none c (.ev m.id) cut =
      some ((markEv c m.id).handler (dropEv Quirks.none (markEv c m.id) (markEv c m.id).vol m).1
        (dropEv Quirks.none (markEv c m.id) (markEv c m.id).vol m).2 cut) := by
  unfold step
  rw [if_neg (by simp [hdiv])]
  simp only [hf, hdead, if_true]

theorem step_tm_drop {c : Cfg} {m : QEv} (hdiv : c.diverged = false) (hc : m.id ∈ c.timers) (hf : findEv c m.id true = some m)
    (hdead : (!waitVisit m.kind && inDeadJoin Quirks.none c { c.vol with timers := c.timers.erase m.id } m) = true)
    (cut : Option Nat) :
    step Quirks.none c (.tm m.id) cut =
      some (c.handler (dropEv Quirks.none c { c.vol with timers := c.timers.erase m.id } m).1
        (dropEv Quirks.none c { c.vol with timers := c.timers.erase m.id } m).2 cut) := by
  have hc' : (!c.timers.contains m.id) = false := by simp [hc]
  unfold step
  rw [if_neg (by simp [hdiv])]
  simp only [Bool.false_eq_true, if_false, hc', hf, hdead, if_true]

theorem step_ev_some {q : Quirks} {c c' : Cfg} {id : Nat} {cut : Option Nat} (hdiv : c.diverged = false)
    (hs : step q c (.ev id) cut = some c') : ∃ m, findEv c id false = some m := by
  cases hf : findEv c id false with
  | some m => exact ⟨m, rfl⟩
  | none => simp [step, hdiv, hf] at hs

theorem step_tm_idle {c c' : Cfg} {id : Nat} {cut : Option Nat} (hdiv : c.diverged = false) (hc : id ∉ c.timers)
    (hs : step Quirks.none c (.tm id) cut = some c') : c' = c.handler [] c.vol cut := by
  unfold step at hs
  rw [if_neg (by simp [hdiv])] at hs
  simp only [show (!c.timers.contains id) = true by simp [hc], if_true, Quirks.none, Bool.false_eq_true, if_false] at hs
  -- the event is a Task's on its first attempt: nothing to do; else not enabled
  split at hs
  · split at hs
    · exact (Option.some.inj hs).symm
    · exact (Option.some.inj hs).symm
    · cases hs
  · cases hs

theorem step_rp_eq (q : Quirks) {c : Cfg} (hdiv : c.diverged = false) (corr : Nat) (cut : Option Nat) :
    step q c (.rp corr) cut =
      if c.rpq.any (fun r => r.corr == corr && !r.unacked) then
        if corr ∈ c.pending then
          (onReply q { c with rpq := markRpL c.rpq corr } corr c.vol).map
            fun x => ({ c with rpq := markRpL c.rpq corr } : Cfg).handler x.1 x.2 cut
        else some (({ c with rpq := markRpL c.rpq corr } : Cfg).handler [] { c.vol with orphans := insertNat corr c.orphans } cut)
      else none := by
  unfold step
  rw [if_neg (by simp [hdiv])]
  by_cases hany : c.rpq.any (fun r => r.corr == corr && !r.unacked) = true
  · by_cases hp : corr ∈ c.pending
    · simp only [hany, Cfg.vol, hp, List.contains_iff_mem]
      cases onReply q { c with rpq := markRpL c.rpq corr } corr _ <;> rfl
    · simp [hany, Cfg.vol, hp]
  · simp [hany]

theorem step_tick_eq (q : Quirks) {c : Cfg} (hdiv : c.diverged = false) (cut : Option Nat) :
    step q c .tick cut =
      match c.orphans.find? (fun o => c.pending.contains o) with
      | none => some (c.handler [] c.vol cut)
      | some corr => (onReply q c corr { c.vol with orphans := c.orphans.erase corr }).map fun x => c.handler x.1 x.2 cut := by
  unfold step
  rw [if_neg (by simp [hdiv])]
  cases c.orphans.find? (fun o => c.pending.contains o) with
  | none => rfl
  | some corr =>
    show (match onReply q c corr { c.vol with orphans := c.orphans.erase corr } with
      | some (acts, v') => some (c.handler acts v' cut) | none => none) =
      (onReply q c corr { c.vol with orphans := c.orphans.erase corr }).map _
    cases onReply q c corr { c.vol with orphans := c.orphans.erase corr } <;> rfl

theorem step_crash_eq (q : Quirks) {c : Cfg} (hdiv : c.diverged = false) (cut : Option Nat) :
    step q c .crash cut = some c.crash := by
  unfold step
  rw [if_neg (by simp [hdiv])]

theorem act_withVol (c : Cfg) (v : Vol) (a : Act) : (c.withVol v).act a = (c.act a).withVol v := by
  cases a with
  | note b => cases b <;> rfl
  | _ => rfl

theorem foldl_act_withVol (acts : List Act) (c : Cfg) (v : Vol) :
    acts.foldl Cfg.act (c.withVol v) = (acts.foldl Cfg.act c).withVol v := by
  induction acts generalizing c with
  | nil => rfl
  | cons a as ih => simp only [List.foldl_cons, act_withVol]; exact ih _

theorem VolH.pre {c : Cfg} {a b : Option Nat} (h : VolH c a b) (start : Bool) : VolH ((preOf start).foldl Cfg.act c) a b := by
  cases start
  · exact h
  · exact h.note false

theorem VolH.ackRof {c : Cfg} {a rp : Option Nat} (h : VolH c a rp) (hnd : (rpC c).Nodup) :
    VolH ((ackRof rp).foldl Cfg.act c) a none := by
  cases rp with
  | none => exact h
  | some r => exact h.ackRp hnd

theorem ready_ackedRpq_le (rp : Option Nat) (l : List QRp) :
    ((ackedRpq rp l).filter (fun r => !r.unacked)).length ≤ (l.filter (fun r => !r.unacked)).length := by
  cases rp with
  | none => exact Nat.le_refl _
  | some r => exact ((removeFirst_sublist _ l).filter _).length_le

theorem drain_quiet (q : Quirks) (fuel : Nat) {c : Cfg} (h : nextOp c = none) : drain q fuel c = c := by
  cases fuel with
  | zero => rfl
  | succ n => simp only [drain, h]; split <;> rfl

theorem drain_of_le (q : Quirks) {f g : Nat} (c : Cfg) (h : nextOp (drain q f c) = none) (hfg : f ≤ g) :
    drain q g c = drain q f c := by
  fun_induction drain q f c generalizing g with
  | case1 c => exact drain_quiet q g h
  | case2 f c hd => cases g <;> simp [drain, hd]
  | case3 f c hd hn => exact drain_quiet q g hn
  | case4 f c hd op hn c' hs ih =>
    cases g with
    | zero => cases hfg
    | succ g => simpa [drain, hd, hn, hs] using ih h (Nat.le_of_succ_le_succ hfg)
  | case5 f c hd op hn hs => cases g <;> simp [drain, hd, hn, hs]

theorem nextOp_none {c : Cfg} : nextOp c = none ↔
    c.timers = [] ∧ (∀ e ∈ c.evq, e.unacked = true) ∧ (∀ r ∈ c.rpq, r.unacked = true) ∧ ∀ o ∈ c.orphans, o ∉ c.pending := by
  have hev : c.evq.find? (fun m => !m.unacked) = none ↔ ∀ e ∈ c.evq, e.unacked = true := by simp
  have hrp : c.rpq.find? (fun r => !r.unacked) = none ↔ ∀ r ∈ c.rpq, r.unacked = true := by simp
  have hor : c.orphans.any (fun o => c.pending.contains o) = false ↔ ∀ o ∈ c.orphans, o ∉ c.pending := by simp
  rw [← hev, ← hrp, ← hor]
  unfold nextOp
  cases c.timers <;> cases c.evq.find? _ <;> cases c.rpq.find? _ <;> cases c.orphans.any _ <;> simp

theorem nextOp_some {c : Cfg} {op : Op} (h : nextOp c = some op) :
    (∃ t ∈ c.timers, op = .tm t) ∨
    (∃ m, c.evq.find? (fun m => !m.unacked) = some m ∧ op = .ev m.id) ∨
    (∃ r, c.rpq.find? (fun r => !r.unacked) = some r ∧ op = .rp r.corr) ∨
    ((∃ o ∈ c.orphans, o ∈ c.pending) ∧ op = .tick) := by
  revert h
  fun_cases nextOp c <;> intro h
  case case1 t ts ht => exact .inl ⟨t, by simp [ht], (Option.some.inj h).symm⟩
  case case2 m hm => exact .inr (.inl ⟨m, hm, (Option.some.inj h).symm⟩)
  case case3 r hr => exact .inr (.inr (.inl ⟨r, hr, (Option.some.inj h).symm⟩))
  case case4 hany => exact .inr (.inr (.inr ⟨by simpa using hany, (Option.some.inj h).symm⟩))
  case case5 => cases h

theorem Dur.findEv {K : EvKind → Prop} {c : Cfg} (h : Dur K c) {m : QEv} (hm : m ∈ c.evq) :
    findEv c m.id m.unacked = some m := by
  obtain ⟨l1, l2, he, h1, _⟩ := h.split hm
  have : l1.find? (fun x => x.id == m.id && x.unacked == m.unacked) = none :=
    List.find?_eq_none.mpr fun x hx => by simp [h1 x hx]
  simp [Crash.findEv, he, List.find?_append, this]

theorem armed_event {K : EvKind → Prop} {c : Cfg} (hd : Dur K c) (hv : VolI c) {id : Nat} (ht : id ∈ c.timers) :
    ∃ m, m ∈ c.evq ∧ m.id = id ∧ m.unacked = true ∧ timerKind m.kind = true ∧ findEv c id true = some m := by
  obtain ⟨m, hm, hu, rfl⟩ := mem_uEv.mp (hv.t_sub id ht)
  exact ⟨m, hm, rfl, hu, hv.t_kind m hm ht, hu ▸ hd.findEv hm⟩

theorem pending_task {K : EvKind → Prop} {c : Cfg} (hd : Dur K c) (hv : VolI c) {corr : Nat} (hp : corr ∈ c.pending) :
    ∃ m, m ∈ c.evq ∧ m.id = corr ∧ m.unacked = true ∧ isTaskKind m.kind = true ∧ findEv c corr true = some m := by
  obtain ⟨m, hm, hu, rfl⟩ := mem_uEv.mp (hv.p_sub corr hp).1
  exact ⟨m, hm, rfl, hu, hv.p_kind m hm hp, hu ▸ hd.findEv hm⟩

theorem onReply_eq (q : Quirks) {c : Cfg} {corr rc : Nat} {m : QEv} {rest : Sk} {stack : List Frame} {st : Bool} {o : Option Nat}
    (hf : findEv c corr true = some m) (hk : m.kind = .visit (.task rc rest) stack st o) (v : Vol) :
    onReply q c corr v =
      some (advance q c (fuelOf c) corr rest stack o (some corr) { v with pending := v.pending.erase corr }) := by
  simp only [onReply, hf, hk]

theorem onReply_enabled (q : Quirks) {c : Cfg} {corr : Nat} {m : QEv} (hf : findEv c corr true = some m)
    (hk : isTaskKind m.kind = true) (v : Vol) : ∃ x, onReply q c corr v = some x := by
  unfold onReply
  rw [hf]
  simp only
  cases hkk : m.kind with
  | reenter _ _ _ _ => rw [hkk] at hk; cases hk
  | visit t _ _ _ =>
    rw [hkk] at hk
    cases t <;> first | exact ⟨_, rfl⟩ | cases hk

theorem canon_enabled {K : EvKind → Prop} {c : Cfg} (hd : Dur K c) (hv : VolI c) {op : Op} (hop : nextOp c = some op) :
    ∃ c', step Quirks.none c op none = some c' := by
  rcases nextOp_some hop with ⟨t, ht, rfl⟩ | ⟨m, hm, rfl⟩ | ⟨r, hr, rfl⟩ | ⟨_, rfl⟩
  · obtain ⟨m, -, rfl, -, hk, hf⟩ := armed_event hd hv ht
    cases hdead : (!waitVisit m.kind && inDeadJoin Quirks.none c { c.vol with timers := c.timers.erase m.id } m) with
    | true => exact ⟨_, step_tm_drop hd.nodiv ht hf hdead none⟩
    | false => exact ⟨_, step_tm_eq hd.nodiv ht hf hk hdead none⟩
  · have hmm := List.mem_of_find?_eq_some hm
    have hf : findEv c m.id false = some m := by
      have hu : m.unacked = false := by simpa using List.find?_some hm
      exact hu ▸ hd.findEv hmm
    cases hdead : inDeadJoin Quirks.none (markEv c m.id) (markEv c m.id).vol m with
    | true => exact ⟨_, step_ev_drop hd.nodiv hf hdead none⟩
    | false =>
      by_cases hopq : ∃ s st o, m.kind = .visit .opaque s st o
      · -- a path the skeleton says nothing about: the run is marked as diverged
        obtain ⟨s, st, o, hk⟩ := hopq
        refine ⟨{ markEv c m.id with diverged := true }, ?_⟩
        unfold step
        rw [if_neg (by simp [hd.nodiv])]
        simp only [hf, hdead, hk, Bool.false_eq_true, if_false]
      · exact ⟨_, step_ev_eq hd.nodiv hf (fun s st o hk => hopq ⟨s, st, o, hk⟩) hdead none⟩
  · have hany : c.rpq.any (fun x => x.corr == r.corr && !x.unacked) = true :=
      List.any_eq_true.mpr ⟨r, List.mem_of_find?_eq_some hr, by simpa using List.find?_some hr⟩
    rw [step_rp_eq _ hd.nodiv, if_pos hany]
    split
    · rename_i hp
      obtain ⟨m, _, _, _, hk, hf⟩ := pending_task hd hv hp
      obtain ⟨x, hx⟩ := onReply_enabled Quirks.none (c := { c with rpq := markRpL c.rpq r.corr }) hf hk c.vol
      exact ⟨_, by rw [hx]; rfl⟩
    · exact ⟨_, rfl⟩
  · rw [step_tick_eq _ hd.nodiv]
    split
    · exact ⟨_, rfl⟩
    · rename_i corr hf
      obtain ⟨m, _, _, _, hk, hf⟩ := pending_task hd hv (corr := corr) (by simpa using List.find?_some hf)
      obtain ⟨x, hx⟩ := onReply_enabled Quirks.none hf hk { c.vol with orphans := c.orphans.erase corr }
      exact ⟨_, by rw [hx]; rfl⟩

/-- The canonical schedule runs a deferred handler only when its timer is armed, the orphan handler only when it has something
to match: the cases in which these two lower a measure. -/
theorem canon_step {K : EvKind → Prop} {c : Cfg} (hd : Dur K c) (hv : VolI c) {P : Cfg → Prop}
    (hev : ∀ c' id, step Quirks.none c (.ev id) none = some c' → P c')
    (htm : ∀ c' id, id ∈ c.timers → step Quirks.none c (.tm id) none = some c' → P c')
    (hrp : ∀ c' corr, step Quirks.none c (.rp corr) none = some c' → P c')
    (htick : ∀ c', (∃ o ∈ c.orphans, o ∈ c.pending) → step Quirks.none c .tick none = some c' → P c')
    {op : Op} (hop : nextOp c = some op) : ∃ c', step Quirks.none c op none = some c' ∧ P c' := by
  obtain ⟨c', hs⟩ := canon_enabled hd hv hop
  refine ⟨c', hs, ?_⟩
  rcases nextOp_some hop with ⟨t, ht, rfl⟩ | ⟨m, _, rfl⟩ | ⟨r, _, rfl⟩ | ⟨ho, rfl⟩
  · exact htm c' t ht hs
  · exact hev c' m.id hs
  · exact hrp c' r.corr hs
  · exact htick c' ho hs

theorem quiet_held {K : EvKind → Prop} {c : Cfg} (hd : Dur K c) (hv : VolI c) (hq : nextOp c = none) :
    ∀ e ∈ c.evq, e.id ∈ heldE c.joins ∨ (e.id ∈ c.pending ∧ e.id ∈ heldR c.joins) := by
  obtain ⟨ht, hev, hrp, hor⟩ := nextOp_none.mp hq
  intro e he
  have hu := hv.u_ev e.id (mem_uEv.mpr ⟨e, he, hev e he, rfl⟩)
  rw [ht] at hu
  rcases hu with hu | hu | hu
  · cases hu
  · -- it is requested, its reply is in the queue, unacknowledged, and not retained: the orphan handler would match it
    right
    obtain ⟨_, hr⟩ := hd.reply _ (mem_evK he) (hv.p_sub _ hu).2
    obtain ⟨r, hrm, hrc⟩ := List.mem_map.mp hr
    replace hrc : r.corr = e.id := hrc
    rcases hv.u_rp r.corr (mem_uRp.mpr ⟨r, hrm, hrp r hrm, rfl⟩) with ho | ho
    · exact absurd (hrc ▸ hu) (hor _ ho)
    · exact ⟨hu, hrc ▸ ho⟩
  · exact .inl hu

theorem drain_rest (q : Quirks) {I : Cfg → Prop} {μ : Cfg → Nat}
    (hstep : ∀ c op, I c → nextOp c = some op → ∃ c', step q c op none = some c' ∧ I c' ∧ μ c' < μ c)
    (fuel : Nat) (c : Cfg) (h : I c) (hf : μ c ≤ fuel) :
    I (drain q fuel c) ∧ nextOp (drain q fuel c) = none := by
  induction fuel generalizing c with
  | zero =>
    refine ⟨h, ?_⟩
    cases hop : nextOp c with
    | none => exact hop
    | some op => obtain ⟨c', _, _, hlt⟩ := hstep c op h hop; exact absurd (Nat.lt_of_lt_of_le hlt hf) (Nat.not_lt_zero _)
  | succ fuel ih =>
    cases hop : nextOp c with
    | none => rw [drain_quiet q _ hop]; exact ⟨h, hop⟩
    | some op =>
      obtain ⟨c', hs, hi, hlt⟩ := hstep c op h hop
      -- a diverged configuration steps to itself: the measure would not fall
      have hnd : c.diverged = false := by
        cases hd : c.diverged with
        | false => rfl
        | true =>
          have : step q c op none = some c := by simp [step, hd]
          rw [this] at hs; cases hs; exact absurd hlt (Nat.lt_irrefl _)
      simp only [drain, hnd, hop, hs, Bool.false_eq_true, if_false]
      exact ih c' hi (Nat.le_of_lt_succ (Nat.lt_of_lt_of_le hlt hf))

end Asl.Crash
