/- Association lists, key prefixes, SimpleStore and the write-through JSONStore: what needs no invariant. -/
import AslModel.Store
namespace Asl.Store
open Asl

theorem aGet_aSet {α : Type} (s : List (Str × α)) (k k' : Str) (v : α) :
    aGet (aSet s k v) k' = if k' = k then some v else aGet s k' := by
  fun_induction aSet s k v <;> grind [aGet]

theorem aGet_aDel {α : Type} (s : List (Str × α)) (k k' : Str) :
    aGet (aDel s k) k' = if k' = k then none else aGet s k' := by
  induction s with
  | nil => simp [aDel, aGet]
  | cons p r ih =>
    simp only [aDel, List.filter_cons] at ih ⊢
    grind [aGet]

theorem mem_of_aGet {α : Type} (s : List (Str × α)) (k : Str) (v : α) (h : aGet s k = some v) :
    (k, v) ∈ s := by
  fun_induction aGet s k <;> grind

theorem aGet_isSome_iff {α : Type} (s : List (Str × α)) (k : Str) :
    (aGet s k).isSome = true ↔ k ∈ aKeys s := by
  fun_induction aGet s k <;> grind [aKeys]

-- no entry has key `k`, else `aGet` would find one
theorem aDel_absent {α : Type} (s : List (Str × α)) (k : Str) (h : aGet s k = none) : aDel s k = s :=
  List.filter_eq_self.mpr fun e he => decide_eq_true fun ek =>
    absurd ((aGet_isSome_iff s k).mpr (ek ▸ List.mem_map_of_mem he)) (by simp [h])

theorem aKeys_aSet {α : Type} (s : List (Str × α)) (k : Str) (v : α) :
    aKeys (aSet s k v) = if k ∈ aKeys s then aKeys s else aKeys s ++ [k] := by
  fun_induction aSet s k v <;> grind [aKeys]

theorem aKeys_aSet_nodup {α : Type} (s : List (Str × α)) (k : Str) (v : α)
    (h : (aKeys s).Nodup) : (aKeys (aSet s k v)).Nodup := by
  rw [aKeys_aSet]
  split
  · exact h
  · rename_i hk
    simpa [List.nodup_append, h] using fun a ha (e : a = k) => hk (e ▸ ha)

theorem aKeys_filter_nodup {α : Type} (s : List (Str × α)) (P : Str × α → Bool)
    (h : (aKeys s).Nodup) : (aKeys (s.filter P)).Nodup := by
  unfold aKeys
  exact (List.filter_sublist.map _).nodup h

theorem aKeys_aDel_nodup {α : Type} (s : List (Str × α)) (k : Str)
    (h : (aKeys s).Nodup) : (aKeys (aDel s k)).Nodup :=
  aKeys_filter_nodup s _ h

theorem aDel_length_lt {α : Type} (s : List (Str × α)) (k : Str) (v : α) (h : aGet s k = some v) :
    (aDel s k).length < s.length :=
  List.length_filter_lt_length_iff_exists.mpr ⟨(k, v), mem_of_aGet s k v h, by simp⟩

theorem mem_aDel {α : Type} {s : List (Str × α)} {k : Str} {e : Str × α} (h : e ∈ aDel s k) :
    e ∈ s ∧ e.1 ≠ k := by
  simpa [aDel] using h

theorem pk_inj (p k k' : Str) : pk p k = pk p k' ↔ k = k' := by
  simp [pk]

theorem rmPrefix_pk (p k : Str) : rmPrefix p (pk p k) = k := by
  simp [rmPrefix, pk]

theorem pk_of_prefix (p fk : Str) (h : (p ++ [':']).isPrefixOf fk = true) :
    pk p (rmPrefix p fk) = fk := by
  rw [List.isPrefixOf_iff_prefix] at h
  obtain ⟨t, rfl⟩ := h
  simp [rmPrefix, pk]

/-- the mapping a memory image denotes -/
def mabs (s : Mem) : Spec := fun k => aGet s k

theorem spec_del_absent (m : Spec) (k : Str) (h : m k = none) : m.del k = m := by
  funext k'
  by_cases e : k' = k
  · subst e; simp [Spec.del, h]
  · simp [Spec.del, e]

theorem spec_set_del (m : Spec) (k : Str) (v : Json) : (m.del k).set k v = m.set k v := by
  funext k'; by_cases e : k' = k <;> simp [Spec.set, Spec.del, e]

theorem mabs_aSet (s : Mem) (k : Str) (v : Json) : mabs (aSet s k v) = (mabs s).set k v := by
  funext k'; simp [mabs, Spec.set, aGet_aSet]

theorem mabs_aDel (s : Mem) (k : Str) : mabs (aDel s k) = (mabs s).del k := by
  funext k'; simp [mabs, Spec.del, aGet_aDel]

/-- the mapping the memory image of client `c` denotes: `mabs (w.mem c)` -/
def jabs (w : JWorld) (c : Nat) : Spec := fun k => aGet (w.mem c) k

/-- the file holds what client `c` has in memory -/
abbrev Synced (w : JWorld) (c : Nat) : Prop := load w.file = w.mem c

@[simp] theorem setAt_same {α : Type} (f : Nat → α) (c : Nat) (x : α) : setAt f c x c = x := by
  simp [setAt]

theorem setAt_other {α : Type} (f : Nat → α) (c c' : Nat) (x : α) (h : c' ≠ c) :
    setAt f c x c' = f c' := by
  simp [setAt, h]

theorem memNested_of_ne_done (s : Mem) (k : Str) (f : Json → Option Json) :
    (memNested s k f).2 ≠ .done → (memNested s k f).1 = s := by
  fun_cases memNested s k f <;> first | exact fun _ => rfl | exact absurd rfl

theorem memStep_of_ne_done (s : Mem) (op : Op) : (memStep s op).2 ≠ .done → (memStep s op).1 = s := by
  fun_cases memStep s op
  case case2 | case3 => exact memNested_of_ne_done _ _ _
  all_goals first | exact fun _ => rfl | exact absurd rfl

/-- write-through: either nothing changes, or `memStep` accepts the write and the file is rewritten -/
theorem jsonStep_writes (q : Quirks) (w : JWorld) (c : Nat) (op : Op) (hop : op ≠ .reopen) :
    (jsonStep q w c op = (w, (memStep (w.mem c) op).2) ∧ (memStep (w.mem c) op).1 = w.mem c) ∨
    ∃ f, jsonStep q w c op = ({ file := f, mem := setAt w.mem c (memStep (w.mem c) op).1 }, .done) ∧
      (memStep (w.mem c) op).2 = .done ∧ (q.nestedMemOnly = false → f = .doc (.obj (memStep (w.mem c) op).1)) := by
  cases op with
  | reopen => exact absurd rfl hop
  | set k v | del k | upd k f v | app k v =>
    simp only [jsonStep]
    split
    · exact .inr ⟨_, rfl, ‹_›, fun hq => by simp [hq]⟩
    · exact .inl ⟨rfl, memStep_of_ne_done _ _ (fun e => ‹∀ _, _› e)⟩
  | get k | cget k => exact .inl ⟨rfl, by simp only [memStep]; split <;> rfl⟩
  | _ => exact .inl ⟨rfl, rfl⟩

theorem jsonStep_mem (q : Quirks) (w : JWorld) (c : Nat) (op : Op) (hop : op ≠ .reopen) :
    (jsonStep q w c op).1.mem c = (memStep (w.mem c) op).1 ∧
    (jsonStep q w c op).2 = (memStep (w.mem c) op).2 := by
  rcases jsonStep_writes q w c op hop with ⟨e, hm⟩ | ⟨f, e, ho, _⟩ <;> rw [e]
  · exact ⟨hm.symm, rfl⟩
  · exact ⟨setAt_same _ _ _, ho.symm⟩

theorem synced_step (w : JWorld) (c : Nat) (op : Op) (h : Synced w c) :
    Synced (jsonStep Quirks.none w c op).1 c := by
  by_cases hop : op = .reopen
  · subst hop; simp [Synced, jsonStep]
  rcases jsonStep_writes Quirks.none w c op hop with ⟨e, _⟩ | ⟨f, e, _, hf⟩ <;> rw [e]
  · exact h
  · simp [Synced, hf rfl, load]

theorem synced_run (w : JWorld) (c : Nat) (ops : List Op) (h : Synced w c) :
    Synced (jrun Quirks.none w (ops.map (fun o => (c, o)))).1 c := by
  induction ops generalizing w with
  | nil => simpa [jrun] using h
  | cons o r ih => simpa [jrun] using ih _ (synced_step w c o h)

theorem synced_open (f : FileC) (c : Nat) : Synced (jopen f) c := by simp [Synced, jopen]

end Asl.Store
