/- For C18: inversion of `wfState`, and the induction on the fuel (`Safe`) showing that no "Illegal State Machine"
site is reachable inside a well-formed scope -/
import AslModel.Machine
import AslModel.Lite
import Proofs.Lemmas.Obj
import Proofs.Lemmas.RunEqs
import Proofs.Lemmas.Retry
namespace Asl.Machine

theorem wfScope_get {d : Nat} {kvs : List (Str × Json)} {n : Str} {s : Json}
    (h : wfScope d kvs = true) (hg : objGet kvs n = some s) : wfState d kvs s = true :=
  List.all_eq_true.mp h (n, s) (objGet_mem hg)

theorem defined_get {kvs : List (Str × Json)} {n : Str} (h : defined kvs n = true) :
    ∃ s, objGet kvs n = some s :=
  Option.isSome_iff_exists.mp h

theorem fld_of_fldStr {j : Json} {k : String} {n : Str} (h : fldStr j k = some n) : fld j k = some (.str n) := by
  unfold fldStr at h
  split at h
  · cases h; assumption
  · cases h

theorem targetOk_str {kvs : List (Str × Json)} {o : Option Json} (h : targetOk kvs o = true) :
    ∃ n, o = some (.str n) ∧ defined kvs n = true := by
  unfold targetOk at h
  split at h
  · exact ⟨_, rfl, h⟩
  · cases h

theorem leaveOk_next {kvs : List (Str × Json)} {state : Json} (h : leaveOk kvs state = true)
    (hE : isTrue (fld state "End") = false) : ∃ n, fldStr state "Next" = some n ∧ defined kvs n = true := by
  simp only [leaveOk, hE, Bool.false_or] at h
  obtain ⟨n, hn, hd⟩ := targetOk_str h
  exact ⟨n, by simp only [fld] at hn; simp [fldStr, hn], hd⟩

theorem catcherOf_next {kvs : List (Str × Json)} {j : Json} (h : targetOk kvs (j.get "Next") = true) :
    ∃ n, (catcherOf j).next = some n ∧ defined kvs n = true := by
  obtain ⟨n, hn, hd⟩ := targetOk_str h
  refine ⟨n, ?_, hd⟩
  cases j with
  | obj m =>
    have : objGet m (S "Next") = some (.str n) := hn
    simp [catcherOf, this]
  | _ => cases hn

theorem scanCatchers_mem {cs : List Catcher} {e : Str} {c : Catcher} (h : scanCatchers cs e = some c) :
    c ∈ cs := by
  fun_induction scanCatchers cs e <;> simp_all

/-- site (d) is closed: a catcher that `handle_error` selects in a state with `catchOk` has a
`Next` defined in the scope -/
theorem caught_next {kvs : List (Str × Json)} {state : Json} {rs : List Retrier} {e : Str} {r : Nat} {c : Catcher}
    (hc : catchOk kvs state = true)
    (h : decideError rs ((listOf (fld state "Catch")).map catcherOf) e r = .caught c) :
    ∃ n, c.next = some n ∧ defined kvs n = true := by
  obtain ⟨j, hj, rfl⟩ := List.mem_map.mp (scanCatchers_mem (decideError_caught_iff.mp h).2.2)
  exact catcherOf_next (List.all_eq_true.mp hc j hj)

theorem choiceOk_rule {kvs : List (Str × Json)} {state r : Json} {n : Str} (h : choiceOk kvs state = true)
    (hr : r ∈ listOf (fld state "Choices")) (hn : r.get "Next" = some (.str n)) : defined kvs n = true := by
  simp only [choiceOk, Bool.and_eq_true, List.all_eq_true] at h
  simpa [hn, targetOk] using h.1.2 r hr

theorem choiceOk_default {kvs : List (Str × Json)} {state : Json} {n : Str} (h : choiceOk kvs state = true)
    (hn : fldStr state "Default" = some n) : defined kvs n = true := by
  simp only [choiceOk, Bool.and_eq_true, fld_of_fldStr hn] at h
  exact h.2

theorem lite_go_mem (input ctx : Json) (rs : List Json) (n : Str)
    (h : Lite.choose.go input ctx rs = some n) : ∃ r, r ∈ rs ∧ r.get "Next" = some (.str n) := by
  fun_induction Lite.choose.go input ctx rs <;> simp_all

/-- what `wfState` asks of a state beyond its handlers, by the state's Type -/
inductive TypeFacts (d : Nat) (kvs : List (Str × Json)) (state : Json) : Prop where
  | pass (ht : stateType state = S "Pass") (hl : leaveOk kvs state = true)
  | succeed (ht : stateType state = S "Succeed")
  | fail (ht : stateType state = S "Fail")
  | wait (ht : stateType state = S "Wait") (hl : leaveOk kvs state = true) (hw : waitOk state = true)
  | choice (ht : stateType state = S "Choice") (hc : choiceOk kvs state = true)
  | task (ht : stateType state = S "Task") (hl : leaveOk kvs state = true)
      (hr : hasStr state "Resource" = true)
  | parallel (ht : stateType state = S "Parallel") (hl : leaveOk kvs state = true)
      (hne : (listOf (fld state "Branches")).isEmpty = false)
      (hb : ∀ b ∈ listOf (fld state "Branches"), wfBranch d b = true)
  | map (ht : stateType state = S "Map") (hl : leaveOk kvs state = true)
      (hp : wfBranch d (mapProc state) = true) (hm : maxConcOk state = true)

theorem ite_cases {c : Prop} [Decidable c] {a b : Bool} (h : (if c then a else b) = true) :
    c ∧ a = true ∨ ¬c ∧ b = true := by
  by_cases hc : c
  · exact .inl ⟨hc, (if_pos hc).symm.trans h⟩
  · exact .inr ⟨hc, (if_neg hc).symm.trans h⟩

theorem wfState_inv {d : Nat} {kvs : List (Str × Json)} {state : Json} (h : wfState d kvs state = true) :
    ∃ d', d = d' + 1 ∧ catchOk kvs state = true ∧ handlersOk state = true ∧ TypeFacts d' kvs state := by
  cases d with
  | zero => cases h
  | succ d =>
  simp only [wfState, Bool.and_eq_true] at h
  obtain ⟨⟨hc, hh⟩, h⟩ := h
  refine ⟨d, rfl, hc, hh, ?_⟩
  rcases ite_cases h with ⟨h1, h⟩ | ⟨_, h⟩
  · exact .pass h1 h
  rcases ite_cases h with ⟨h2, _⟩ | ⟨_, h⟩
  · exact .succeed h2
  rcases ite_cases h with ⟨h3, _⟩ | ⟨_, h⟩
  · exact .fail h3
  rcases ite_cases h with ⟨h4, h⟩ | ⟨_, h⟩
  · rw [Bool.and_eq_true] at h
    exact .wait h4 h.1 h.2
  rcases ite_cases h with ⟨h5, h⟩ | ⟨_, h⟩
  · exact .choice h5 h
  rcases ite_cases h with ⟨h6, h⟩ | ⟨_, h⟩
  · rw [Bool.and_eq_true] at h
    exact .task h6 h.1 h.2
  rcases ite_cases h with ⟨h7, h⟩ | ⟨_, h⟩
  · -- the `wfBranch` local to `wfState` is the body of `wfBranch`
    simp only [Bool.and_eq_true, Bool.not_eq_true', List.all_eq_true] at h
    exact .parallel h7 h.1.1 h.1.2 h.2
  rcases ite_cases h with ⟨h8, h⟩ | ⟨_, h⟩
  · simp only [Bool.and_eq_true] at h
    exact .map h8 h.1.1 h.1.2 h.2
  cases h

theorem TypeFacts.known {d : Nat} {kvs : List (Str × Json)} {state : Json}
    (h : TypeFacts d kvs state) : stateType state ∈ knownTypes := by
  cases h <;> simp [knownTypes, *]

theorem wfBranch_inv {d : Nat} {b : Json} (h : wfBranch d b = true) :
    ∃ s kvs, fldStr b "StartAt" = some s ∧ fld b "States" = some (.obj kvs) ∧ defined kvs s = true ∧
      wfScope d kvs = true := by
  unfold wfBranch at h
  split at h
  · rename_i s kvs hs hk
    simp only [Bool.and_eq_true] at h
    exact ⟨s, kvs, hs, hk, h.1, h.2⟩
  · cases h

theorem WF_inv {m : Json} (h : WF m = true) :
    wfBranch m.size m = true ∧ nodup (namesIn m.size m) = true ∧ timeoutOk m = true ∧ namesOk m = true := by
  simpa [WF, and_assoc] using h

def Inv (kvs : List (Str × Json)) : Prop := ∃ d, wfScope d kvs = true

structure Safe (env : Env) (fuel : Nat) : Prop where
  from_ : ∀ kvs name data ctx r st, Inv kvs → defined kvs name = true →
    illFrom env fuel (.obj kvs) name data ctx r st = false
  leave : ∀ kvs name state raw data ctx r st, Inv kvs → defined kvs name = true → leaveOk kvs state = true →
    catchOk kvs state = true → illLeave env fuel (.obj kvs) name state raw data ctx r st = false
  err : ∀ kvs name state data ctx r e msg st, Inv kvs → defined kvs name = true → catchOk kvs state = true →
    illErr env fuel (.obj kvs) name state data ctx r e msg st = false
  state : ∀ kvs name state data ctx r st d, Inv kvs → defined kvs name = true → wfState d kvs state = true →
    illState env fuel (.obj kvs) name state data ctx r st = false
  join : ∀ kvs name state data ctx r res st, Inv kvs → defined kvs name = true → leaveOk kvs state = true →
    catchOk kvs state = true → illJoin env fuel (.obj kvs) name state data ctx r res st = false
  branches : ∀ bs params ctx st d, (∀ b ∈ bs, wfBranch d b = true) → illBranches env fuel bs params ctx st = false
  items : ∀ proc sel input items i mc be ctx st d, wfBranch d proc = true →
    illItems env fuel proc sel input items i mc be ctx st = false

theorem choice_target {env : Env} (hch : ChooseOK env) {kvs : List (Str × Json)} {state input data ctx : Json}
    {n : Str} (hco : choiceOk kvs state = true)
    (h : (match env.choose state input data ctx with
          | some n => some n
          | none => fldStr state "Default") = some n) : defined kvs n = true := by
  split at h
  · rename_i n' hn'
    cases h
    obtain ⟨r, hr, hn⟩ := hch _ _ _ _ _ hn'
    exact choiceOk_rule hco hr hn
  · exact choiceOk_default hco h

/-- one more unit of fuel: each function of the predicate, unfolded once, meets only calls that `ih` covers -/
theorem safe_succ (env : Env) (hch : ChooseOK env) (fuel : Nat) (ih : Safe env fuel) : Safe env (fuel + 1) := by
  constructor
  case from_ =>
    intro kvs name data ctx r st hI hd
    obtain ⟨state, hs⟩ := defined_get hd
    obtain ⟨d, hw⟩ := hI
    simp only [illFrom, hs]
    exact ih.state _ _ _ _ _ _ _ d ⟨d, hw⟩ hd (wfScope_get hw hs)
  case leave =>
    intro kvs name state raw data ctx r st hI hd hl hc
    cases hE : isTrue (fld state "End")
    · obtain ⟨n, hn, hdn⟩ := leaveOk_next hl hE
      simp only [illLeave, hE, hn, Bool.false_eq_true, ↓reduceIte]
      split
      · exact ih.err _ _ _ _ _ _ _ _ _ hI hd hc
      · exact ih.from_ _ _ _ _ _ _ hI hdn
    · simp only [illLeave, hE, ↓reduceIte]
      split
      · exact ih.err _ _ _ _ _ _ _ _ _ hI hd hc
      · rfl
  case err =>
    intro kvs name state data ctx r e msg st hI hd hc
    simp only [illErr]
    split
    · exact ih.from_ _ _ _ _ _ _ hI hd
    · rename_i c hdec
      obtain ⟨n, hn, hdn⟩ := caught_next hc hdec
      split
      · rfl
      · simp only [hn]
        split
        · rfl
        · exact ih.from_ _ _ _ _ _ _ hI hdn
    · rfl
  case join =>
    intro kvs name state data ctx r res st hI hd hl hc
    simp only [illJoin]
    split
    · exact ih.err _ _ _ _ _ _ _ _ _ hI hd hc
    · rfl
    · split
      · exact ih.err _ _ _ _ _ _ _ _ _ hI hd hc
      · split
        · exact ih.err _ _ _ _ _ _ _ _ _ hI hd hc
        · exact ih.leave _ _ _ _ _ _ _ _ hI hd hl hc
  case branches =>
    intro bs params ctx st d hb
    cases bs with
    | nil => simp [illBranches]
    | cons b rest =>
      obtain ⟨s, kvs, hs, hk, hdef, hw⟩ := wfBranch_inv (hb b (by simp))
      simp only [illBranches, hs, hk, Bool.or_eq_false_iff]
      exact ⟨ih.from_ _ _ _ _ _ _ ⟨d, hw⟩ hdef, ih.branches _ _ _ _ d (fun b' hb' => hb b' (by simp [hb']))⟩
  case items =>
    intro proc sel input items i mc be ctx st d hp
    cases items with
    | nil => simp [illItems]
    | cons item rest =>
      obtain ⟨s, kvs, hs, hk, hdef, hw⟩ := wfBranch_inv hp
      simp only [illItems, hs, hk]
      split
      · rfl
      · simp only [Bool.or_eq_false_iff]
        exact ⟨ih.from_ _ _ _ _ _ _ ⟨d, hw⟩ hdef, ih.items _ _ _ _ _ _ _ _ _ d hp⟩
  case state =>
    intro kvs name state data ctx r st d hI hd hw
    obtain ⟨d, rfl, hc, _, F⟩ := wfState_inv hw
    have hE : ∀ {e msg st'}, illErr env fuel (.obj kvs) name state data ctx r e msg st' = false :=
      ih.err _ _ _ _ _ _ _ _ _ hI hd hc
    have hL : leaveOk kvs state = true → ∀ {out st'},
        illLeave env fuel (.obj kvs) name state data out ctx r st' = false := fun hl => ih.leave _ _ _ _ _ _ _ _ hI hd hl hc
    have hJ : leaveOk kvs state = true → ∀ {res st'},
        illJoin env fuel (.obj kvs) name state data ctx r res st' = false := fun hl => ih.join _ _ _ _ _ _ _ _ hI hd hl hc
    rw [illState]
    -- Comparing the eight names settles the dispatch, `ih` answers the calls in the branch taken, the rest
    -- is a tree of matches with `false` at every leaf.
    cases F with
    | pass ht hl =>
      simp only [ht, ↓reduceIte, hE, hL hl]
      repeat' split
      all_goals rfl
    | succeed ht =>
      simp only [ht, S_inj, String.reduceEq, ↓reduceIte, hE]
      repeat' split
      all_goals rfl
    | fail ht => simp only [ht, S_inj, String.reduceEq, ↓reduceIte]
    | wait ht hl _ =>
      simp only [ht, S_inj, String.reduceEq, ↓reduceIte, hE, hL hl]
      repeat' split
      all_goals rfl
    | choice ht hco =>
      simp only [ht, S_inj, String.reduceEq, ↓reduceIte, hE]
      split
      · rfl
      · split
        · rfl
        · split
          · rfl
          · rename_i n hn
            split
            · rfl
            · exact ih.from_ _ _ _ _ _ _ hI (choice_target hch hco hn)
    | task ht hl _ =>
      simp only [ht, S_inj, String.reduceEq, ↓reduceIte, hE, hL hl]
      repeat' split
      all_goals rfl
    | parallel ht hl _ hb =>
      simp only [ht, S_inj, String.reduceEq, ↓reduceIte, hE, hJ hl, ih.branches _ _ _ _ d hb, Bool.or_self]
      repeat' split
      all_goals rfl
    | map ht hl hp _ =>
      simp only [ht, S_inj, String.reduceEq, ↓reduceIte, hE, hJ hl, ih.items _ _ _ _ _ _ _ _ _ d hp, Bool.or_self]
      repeat' split
      all_goals rfl

theorem safe_all (env : Env) (hch : ChooseOK env) : ∀ fuel, Safe env fuel
  | 0 => by
    constructor <;> (intros; rfl)
  | fuel + 1 => safe_succ env hch fuel (safe_all env hch fuel)

end Asl.Machine
