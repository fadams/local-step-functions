/-
Flat skeletons, continued: a fan-out state launches its branches.  With one batch `launch` publishes one event per slot: the
new queue is `brEvt f n i` for `i < f.width`.
-/
import Proofs.Lemmas.CrashFlat
import Proofs.Lemmas.CrashBatch
namespace Asl.Crash

theorem brTasks_toList : ∀ (bs : Br), brTasks bs = (bs.toList.map tasksIn).sum
  | .nil => rfl
  | .cons b bs => by simp [brTasks, Br.toList, brTasks_toList bs]

theorem brVisits_toList : ∀ (bs : Br), brVisits bs = (bs.toList.map (fun b => visits b + 1)).sum
  | .nil => rfl
  | .cons b bs => by simp [brVisits, Br.toList, brVisits_toList bs]

theorem allSeq_toList : ∀ (bs : Br), bs.allSeq = true → ∀ b ∈ bs.toList, b.seq = true
  | .nil, _, b, hb => by cases hb
  | .cons b0 bs, h, b, hb => by
    simp only [Br.allSeq, Bool.and_eq_true] at h
    simp only [Br.toList, List.mem_cons] at hb
    rcases hb with rfl | hb
    · exact h.1
    · exact allSeq_toList bs h.2 b hb

abbrev brEvt (f : Frame) (n i : Nat) : QEv := { id := n + i, kind := .visit (slotB f i) [{ f with idx := i }] false none }

theorem foldl_launch (f : Frame) (hmc : f.mc = 0 ∨ f.width ≤ f.mc) (c : Cfg) :
    (launch f 0 [] none).foldl Cfg.act c =
      { c with evq := c.evq ++ (List.range f.width).map (brEvt f c.nextId), nextId := c.nextId + f.width } := by
  have hk : (List.range f.width).map (fun i => Act.pubEv (.visit (slotB f i) [{ f with idx := i }] false none)) =
      ((List.range f.width).map (fun i => EvKind.visit (slotB f i) [{ f with idx := i }] false none)).map Act.pubEv := by
    rw [List.map_map]; rfl
  have hb : ((List.range f.width).map (fun i => EvKind.visit (slotB f i) [{ f with idx := i }] false none)).flatMap batchKey = [] := by
    simp [List.flatMap_map, batchKey]
  rw [launch_map, show f.branches.toList.length = f.width from rfl, batchOf_all hmc, hk, foldl_pubEv,
    zipIdx_map_range f.width _ (fun i k => ({ id := c.nextId + i, kind := k } : QEv)), hb]
  simp

theorem slotB_seq {f : Frame} (hseq : f.branches.allSeq = true) {i : Nat} (hi : i < f.width) : (slotB f i).seq = true := by
  have : slotB f i = f.branches.toList[i] := by simp [slotB, List.getElem?_eq_getElem hi]
  rw [this]
  exact allSeq_toList _ hseq _ (List.getElem_mem hi)

/-- `g` summed over the launched events, when an event carries `G` of its branch and the first one `R` for what follows -/
theorem sum_brEvt (f : Frame) (n : Nat) (hw : 0 < f.width) (g : QEv → Nat) (G : Sk → Nat) (R : Nat)
    (hg : ∀ i, g (brEvt f n i) = G (slotB f i) + if i = 0 then R else 0) :
    (((List.range f.width).map (brEvt f n)).map g).sum = (f.branches.toList.map G).sum + R := by
  rw [List.map_map, show g ∘ brEvt f n = fun i => G (slotB f i) + if i = 0 then R else 0 from funext hg, sum_map_add,
    sum_range_ite_zero hw]
  exact congrArg (· + R) (sum_range_getD f.branches.toList .done G)

section
variable {f : Frame} {n : Nat} {d : Cfg} (hq : d.evq = (List.range f.width).map (brEvt f n))
include hq

theorem mem_evK_launched (p : Nat × EvKind) : p ∈ evK d ↔ ∃ i, i < f.width ∧ p = (n + i, (brEvt f n i).kind) := by
  simp only [evK, hq, List.mem_map, List.mem_range]
  constructor
  · rintro ⟨e, ⟨i, hi, rfl⟩, rfl⟩; exact ⟨i, hi, rfl⟩
  · rintro ⟨i, hi, rfl⟩; exact ⟨_, ⟨i, hi, rfl⟩, rfl⟩

theorem uEv_launched : uEv d.evq = [] := by
  simp only [uEv, hq, List.map_eq_nil_iff, List.filter_eq_nil_iff]
  intro e he
  obtain ⟨i, _, rfl⟩ := List.mem_map.mp he
  simp

theorem Dur.launched (hmc : f.mc = 0 ∨ f.width ≤ f.mc) (hseq : f.branches.allSeq = true) (hrest : f.rest.flat = true)
    (hw : 0 < f.width) (hn : d.nextId = n + f.width) (hsl : ∀ x ∈ d.sent, x < n) (hsn : d.sent.Nodup) (hrq : d.rpq = [])
    (hdiv : d.diverged = false) (hfl : d.failed = 0) (hdj : d.deadJ = []) : Dur FlatK d where
  kinds p hp := by
    obtain ⟨i, hi, rfl⟩ := (mem_evK_launched hq p).mp hp
    show flatKind (.visit (slotB f i) [{ f with idx := i }] false none) = true
    simp only [flatKind, Bool.and_eq_true]
    exact ⟨slotB_seq hseq hi, Frame.wf_iff.mpr ⟨hmc, hseq, hrest, hi⟩⟩
  ids := by
    have : (evK d).map (·.1) = List.range' n f.width := by
      simp [evK, hq, List.map_map, Function.comp_def, List.range'_eq_map_range]
    exact this ▸ List.nodup_range'
  idlt p hp := by
    obtain ⟨i, hi, rfl⟩ := (mem_evK_launched hq p).mp hp
    exact hn ▸ Nat.add_lt_add_left hi n
  sentlt x hx := by
    have := hsl x hx
    omega
  sentnd := hsn
  corrnd := by simp [rpC, hrq]
  corrsent := by simp [rpC, hrq]
  reply p hp hs := by
    obtain ⟨i, -, rfl⟩ := (mem_evK_launched hq p).mp hp
    have := hsl _ hs
    omega
  alive := .inl (List.ne_nil_of_mem ((mem_evK_launched hq _).mpr ⟨0, hw, rfl⟩))
  nodiv := hdiv
  nofail := hfl
  nodead := hdj

theorem Shape.launched (hj : f.jid < d.nextJ) : Shape d := by
  constructor
  · intro p hp hst
    obtain ⟨i, -, rfl⟩ := (mem_evK_launched hq p).mp hp
    cases hst
  · intro p1 hp1 p2 hp2 f1 f2 hf1 hf2
    obtain ⟨i, -, rfl⟩ := (mem_evK_launched hq p1).mp hp1
    obtain ⟨j, -, rfl⟩ := (mem_evK_launched hq p2).mp hp2
    cases hf1; cases hf2
    exact ⟨rfl, rfl, rfl, fun hij => congrArg (n + ·) hij⟩
  · intro p hp f' hf' i hi
    obtain ⟨j, -, rfl⟩ := (mem_evK_launched hq p).mp hp
    cases hf'
    exact ⟨_, (mem_evK_launched hq _).mpr ⟨i, hi, rfl⟩, { f with idx := i }, rfl, rfl⟩
  · intro p hp f' hf'
    obtain ⟨j, -, rfl⟩ := (mem_evK_launched hq p).mp hp
    cases hf'
    exact hj

theorem JInv.launched (hj : d.joins = [{ jid := f.jid }]) (hw : 0 < f.width) : JInv d :=
  have one {P : Join → Prop} (h : P { jid := f.jid }) : ∀ j ∈ d.joins, P j := fun _ hj' =>
    List.mem_singleton.mp (hj ▸ hj') ▸ h
  have hmine : ∀ p ∈ evK d, ∀ f', evStack p.2 = [f'] → f'.jid = f.jid ∧ 0 < f'.width := fun p hp f' hf' => by
    obtain ⟨i, -, rfl⟩ := (mem_evK_launched hq p).mp hp
    cases hf'
    exact ⟨rfl, hw⟩
  ⟨one hj, one rfl, one hmine, one List.nodup_nil, one (fun _ h => nomatch h), one (fun _ h => nomatch h),
    one (fun _ h => nomatch h), one (fun _ h => nomatch h),
    fun _ h => (not_mem_of_eq_nil (show heldE d.joins = [] from hj ▸ rfl) h).elim,
    fun _ h => (not_mem_of_eq_nil (show heldR d.joins = [] from hj ▸ rfl) h).elim,
    fun h0 => absurd h0 (List.ne_nil_of_mem ((mem_evK_launched hq _).mpr ⟨0, hw, rfl⟩)), one rfl⟩

end

/-- the deferred handler of a (non-empty) Parallel / Map state (`c.withVol v0`: the timer is taken out): its branches are
launched, its event acknowledged -/
theorem flat_launch {N M : Nat} {c : Cfg} {v0 : Vol} {m : QEv} (h : Hand N (c.withVol v0) (some m.id) none) (hm : m ∈ c.evq)
    (hu : m.unacked = true) {mc : Nat} {brs : Br} {rest : Sk} {start : Bool}
    (hk : m.kind = .visit (.par mc brs rest) [] start none) (hne : brs.toList ≠ []) (hM : mu2 (c.withVol v0) < M) :
    let c' := (List.foldl Cfg.act { c with nextJ := c.nextJ + 1 }
        (launch { jid := c.nextJ, idx := 0, mc := mc, branches := brs, rest := rest } 0 [] none ++ [Act.ackEv m.id])).withVol
        { v0 with joins := setJoin v0.joins { jid := c.nextJ } }
    PInv N c' ∧ mu2 c' < M := by
  intro c'
  subst c'
  obtain ⟨hev, hjn, hT, hP, hU⟩ := top_event_alone h.vol h.shape h.cons h.dur.idnd hm (by rw [hk]; rfl)
  dsimp only [Cfg.withVol] at hev hjn hT hP hU
  have hD : Dur FlatK c := h.dur.withVol c.vol
  have hxin : (m.id, m.kind) ∈ evK c := mem_evK hm
  have hfk' : flatKind (EvKind.visit (Sk.par mc brs rest) [] start none) = true := hk ▸ hD.kinds _ hxin
  simp only [flatKind, Sk.flat, Bool.and_eq_true, Bool.or_eq_true, beq_iff_eq, decide_eq_true_eq] at hfk'
  obtain ⟨⟨hmc, hseq⟩, hrest⟩ := hfk'
  have hns : m.id ∉ c.sent := fun hh => by simpa [hk, isTaskKind] using (hD.reply _ hxin hh).1
  obtain ⟨hrq, hO⟩ := hU fun x hx e => hns (e ▸ hD.corrsent x hx)
  let f : Frame := { jid := c.nextJ, idx := 0, mc := mc, branches := brs, rest := rest }
  have hwpos : 0 < f.width := List.length_pos_iff.mpr hne
  -- after the handler the launched events are the queue, nothing is registered, the join is fresh
  rw [List.foldl_append, foldl_launch f hmc]
  have hfil : (m :: (List.range f.width).map (brEvt f c.nextId)).filter (fun x => !(x.id == m.id && x.unacked)) =
      (List.range f.width).map (brEvt f c.nextId) := by
    rw [List.filter_cons, List.filter_eq_self.mpr (fun e he => by obtain ⟨i, _, rfl⟩ := List.mem_map.mp he; simp)]
    simp [hu]
  simp only [List.foldl, Cfg.act, Cfg.withVol, hev, hjn, hT, hP, hO, hrq, setJoin, List.filter_nil, List.cons_append,
    List.nil_append, hfil] at hM ⊢
  have hnsent : ∀ i, c.nextId + i ∉ c.sent := fun i hh => by have := hD.sentlt _ hh; omega
  refine ⟨⟨Dur.launched (f := f) (n := c.nextId) rfl hmc hseq hrest hwpos rfl hD.sentlt hD.sentnd rfl hD.nodiv
      hD.nofail hD.nodead, VolI.nil (uEv_launched (f := f) (n := c.nextId) rfl) rfl rfl rfl rfl rfl rfl,
    Shape.launched (f := f) (n := c.nextId) rfl (Nat.lt_succ_self _), JInv.launched (f := f) (n := c.nextId) rfl rfl hwpos,
    ?_⟩, ?_⟩
  · -- conservation: the Task visits of the fan-out state are those of its branches and of what follows
    have hphi : load2 c = N + inflight2 c := h.cons.phi
    have hl : load2 c = c.sent.length + (brTasks brs + tasksIn rest) := by
      simp only [load2, evK, hev, hk, List.map_cons, List.map_nil, List.sum_cons, List.sum_nil]
      rfl
    have hinfl : inflight2 c = 0 := by simp [inflight2, evK, hev, hns]
    have hsum := sum_brEvt f c.nextId hwpos (fun e => tasksIn (todoOf e.kind) + restT e.kind) tasksIn (tasksIn f.rest) (fun _ => rfl)
    have h2 : ((List.range f.width).map (brEvt f c.nextId)).filter (fun e => c.sent.contains e.id) = [] :=
      List.filter_eq_nil_iff.mpr fun e he => by
        obtain ⟨i, _, rfl⟩ := List.mem_map.mp he
        simpa using hnsent i
    refine ⟨fun h0 => absurd h0 (List.ne_nil_of_mem ((mem_evK_launched (f := f) (n := c.nextId) rfl _).mpr ⟨0, hwpos, rfl⟩)),
      fun _ => h.cons.psi1 (List.ne_nil_of_mem hxin), ?_, fun _ hx => nomatch hx⟩
    rw [hl, hinfl, brTasks_toList] at hphi
    simp only [load2_eq, inflight2_eq, h2, hsum, List.length_nil]
    exact hphi
  · -- less is left to do: the events of the branches weigh what the fan-out state carried for them
    have hsum := sum_brEvt f c.nextId hwpos (fun e => evW e + restW e.kind) (fun b => 8 * visits b + 6) (8 * visits f.rest + 8)
      (fun _ => rfl)
    have hwm : evW m + restW m.kind = 8 * (brVisits brs + visits rest + 2) + 1 := by
      rw [evW, hk, hu]; rfl
    have h3 : ∀ (l : List Sk), (l.map (fun b => 8 * visits b + 6)).sum + 2 * l.length = 8 * (l.map (fun b => visits b + 1)).sum := by
      intro l
      induction l with
      | nil => rfl
      | cons x xs ih => simp +arith [← ih]
    have := h3 brs.toList
    simp only [mu2, hsum, f, List.map_cons, List.map_nil, List.sum_cons, List.sum_nil, List.length_nil,
      List.filter_nil, hwm, brVisits_toList] at hM ⊢
    omega

end Asl.Crash
