/-
The engine's memory along a handler invocation.  `VolI` (CrashInv.lean) is false inside a handler for the message being
handled: it has been delivered, or taken out of its registry, and is not yet acknowledged or registered again.  `VolH c hev hrp`
is `VolI` with that hole: the event `hev` / the reply `hrp` are *in hand*.  A handler opens the hole, performs its broker
operations and closes it, one lemma per step; `VolH c none none` is `VolI c` again.
-/
import Proofs.Lemmas.CrashInv
namespace Asl.Crash

theorem not_mem_uRp_of_ne {l : List QRp} {corr : Nat} (h : ∀ e ∈ l, e.corr ≠ corr) : corr ∉ uRp l := by
  intro hx; obtain ⟨e, he', _, hid⟩ := mem_uRp.mp hx; exact h e he' hid

theorem not_mem_uEv_of_ne {l : List QEv} {id : Nat} (h : ∀ e ∈ l, e.id ≠ id) : id ∉ uEv l := by
  intro hx; obtain ⟨e, he', _, hid⟩ := mem_uEv.mp hx; exact h e he' hid

theorem mem_uEv_ackEv {c : Cfg} {id x : Nat} : x ∈ uEv (c.act (.ackEv id)).evq ↔ x ≠ id ∧ x ∈ uEv c.evq := by
  simp only [mem_uEv, act_ackEv_evq, List.mem_filter, ackP]
  constructor
  · rintro ⟨e, ⟨he, hp⟩, hu, rfl⟩
    exact ⟨fun hid => by simp [hid, hu] at hp, e, he, hu, rfl⟩
  · rintro ⟨hne, e, he, hu, rfl⟩
    exact ⟨e, ⟨he, by simp [hne]⟩, hu, rfl⟩

theorem uEv_pubEv (c : Cfg) (k : EvKind) : uEv (c.act (.pubEv k)).evq = uEv c.evq := by
  simp [Cfg.act, uEv_cons]

theorem uRp_pubReq (c : Cfg) (id : Nat) : uRp (c.act (.pubReq id)).rpq = uRp c.rpq := by
  simp [Cfg.act, uRp_cons]

theorem mem_uRp_ackRp {c : Cfg} (hnd : (rpC c).Nodup) {corr x : Nat} :
    x ∈ uRp (c.act (.ackRp corr)).rpq ↔ x ≠ corr ∧ x ∈ uRp c.rpq := by
  rw [ackRp_rpq hnd]
  simp only [mem_uRp, List.mem_filter]
  constructor
  · rintro ⟨e, ⟨he, hp⟩, hu, rfl⟩
    exact ⟨fun hid => by simp [hid, hu] at hp, e, he, hu, rfl⟩
  · rintro ⟨hne, e, he, hu, rfl⟩
    exact ⟨e, ⟨he, by simp [hne]⟩, hu, rfl⟩

theorem kinds_of_evK {c d : Cfg} (h : evK d = evK c) {e : QEv} (he : e ∈ d.evq) :
    ∃ e' ∈ c.evq, e'.id = e.id ∧ e'.kind = e.kind := by
  have := mem_evK he
  rw [h] at this
  obtain ⟨e', he', heq⟩ := List.mem_map.mp this
  exact ⟨e', he', congrArg Prod.fst heq, congrArg Prod.snd heq⟩

theorem kind_at {c d : Cfg} (hk : evK d = evK c) (hnd : (c.evq.map (·.id)).Nodup) {m : QEv} (hm : m ∈ c.evq) :
    ∀ e ∈ d.evq, e.id = m.id → e.kind = m.kind := fun e he hi => by
  obtain ⟨e', he', hi', hk'⟩ := kinds_of_evK hk he
  have : e' = m := eq_of_nodup_map (·.id) hnd he' hm (hi'.trans hi)
  rw [← hk', this]

section
variable {q l1 l2 : List QEv} {m m' : QEv} (he : q = l1 ++ m :: l2)
include he

theorem mem_uEv_marked (hid' : m'.id = m.id) (hu : m.unacked = false) (hu' : m'.unacked = true) (x : Nat) :
    x ∈ uEv (l1 ++ m' :: l2) ↔ x = m.id ∨ x ∈ uEv q := by
  subst he
  simp only [uEv_append, uEv_cons, hu, hu', hid', List.mem_append, List.mem_cons, if_true, Bool.false_eq_true, if_false]
  exact or_left_comm

theorem not_mem_uEv_ready (h1 : ∀ e ∈ l1, e.id ≠ m.id) (h2 : ∀ e ∈ l2, e.id ≠ m.id) (hu : m.unacked = false) : m.id ∉ uEv q := by
  subst he
  simp [uEv_cons, hu, not_mem_uEv_of_ne h1, not_mem_uEv_of_ne h2]

end

section
variable {q k1 k2 : List QRp} {r r' : QRp} (hr : q = k1 ++ r :: k2)
include hr

theorem mem_uRp_marked (hc' : r'.corr = r.corr) (hu : r.unacked = false) (hu' : r'.unacked = true) (x : Nat) :
    x ∈ uRp (k1 ++ r' :: k2) ↔ x = r.corr ∨ x ∈ uRp q := by
  subst hr
  simp only [uRp_append, uRp_cons, hu, hu', hc', List.mem_append, List.mem_cons, if_true, Bool.false_eq_true, if_false]
  exact or_left_comm

theorem not_mem_uRp_ready (g1 : ∀ e ∈ k1, e.corr ≠ r.corr) (g2 : ∀ e ∈ k2, e.corr ≠ r.corr) (hu : r.unacked = false) :
    r.corr ∉ uRp q := by
  subst hr
  simp [uRp_cons, hu, not_mem_uRp_of_ne g1, not_mem_uRp_of_ne g2]

theorem ready_marked (hu : r.unacked = false) (hu' : r'.unacked = true) :
    ((k1 ++ r' :: k2).filter (fun r => !r.unacked)).length + 1 = (q.filter (fun r => !r.unacked)).length := by
  subst hr
  simp [List.filter_append, hu, hu']
  omega

end

/-- That the message in hand is in its queue, unacknowledged, is no clause: the lemmas that put it back take that as `hin`. -/
structure VolH (c : Cfg) (hev : Option Nat) (hrp : Option Nat) : Prop where
  tnd : c.timers.Nodup
  pnd : c.pending.Nodup
  ond : c.orphans.Nodup
  t_sub : ∀ t ∈ c.timers, t ∈ uEv c.evq
  p_sub : ∀ p ∈ c.pending, p ∈ uEv c.evq ∧ p ∈ c.sent
  o_sub : ∀ o ∈ c.orphans, o ∈ uRp c.rpq
  he_sub : ∀ x ∈ heldE c.joins, x ∈ uEv c.evq
  hr_sub : ∀ x ∈ heldR c.joins, x ∈ uRp c.rpq
  u_ev : ∀ x ∈ uEv c.evq, hev = some x ∨ x ∈ c.timers ∨ x ∈ c.pending ∨ x ∈ heldE c.joins
  u_rp : ∀ x ∈ uRp c.rpq, hrp = some x ∨ x ∈ c.orphans ∨ x ∈ heldR c.joins
  t_kind : ∀ e ∈ c.evq, e.id ∈ c.timers → timerKind e.kind = true
  p_kind : ∀ e ∈ c.evq, e.id ∈ c.pending → isTaskKind e.kind = true
  tp : ∀ t ∈ c.timers, t ∉ c.pending
  free_ev : ∀ x, hev = some x → x ∉ c.timers ∧ x ∉ c.pending ∧ x ∉ heldE c.joins
  free_rp : ∀ x, hrp = some x → x ∉ c.orphans ∧ x ∉ heldR c.joins

theorem VolI.toH {c : Cfg} (h : VolI c) : VolH c none none :=
  { h with
    u_ev := fun x hx => .inr (h.u_ev x hx)
    u_rp := fun x hx => .inr (h.u_rp x hx)
    free_ev := nofun
    free_rp := nofun }

theorem VolH.toI {c : Cfg} (h : VolH c none none) : VolI c :=
  { h with
    u_ev := fun x hx => (h.u_ev x hx).resolve_left nofun
    u_rp := fun x hx => (h.u_rp x hx).resolve_left nofun }

section
variable {c : Cfg} {id corr : Nat} {hev rp : Option Nat}

theorem VolH.deliver (h : VolH c none rp) {q' : List QEv} (hid : id ∉ uEv c.evq)
    (hu : ∀ x, x ∈ uEv q' ↔ x = id ∨ x ∈ uEv c.evq) (hk : evK { c with evq := q' } = evK c) :
    VolH { c with evq := q' } (some id) rp :=
  { h with
    t_sub := fun t ht => (hu t).mpr (.inr (h.t_sub t ht))
    p_sub := fun p hp => ⟨(hu p).mpr (.inr (h.p_sub p hp).1), (h.p_sub p hp).2⟩
    he_sub := fun x hx => (hu x).mpr (.inr (h.he_sub x hx))
    u_ev := by
      intro x hx
      rcases (hu x).mp hx with rfl | hx'
      · exact .inl rfl
      · exact (h.u_ev x hx').elim (nomatch ·) .inr
    t_kind := fun e he ht => let ⟨e', he', hi, hk'⟩ := kinds_of_evK hk he; hk' ▸ h.t_kind e' he' (hi ▸ ht)
    p_kind := fun e he ht => let ⟨e', he', hi, hk'⟩ := kinds_of_evK hk he; hk' ▸ h.p_kind e' he' (hi ▸ ht)
    free_ev := fun x e => by
      cases e
      exact ⟨fun ht => hid (h.t_sub _ ht), fun hp => hid (h.p_sub _ hp).1, fun hh => hid (h.he_sub _ hh)⟩ }

theorem VolH.deliverRp (h : VolH c hev none) {q' : List QRp} (hid : corr ∉ uRp c.rpq)
    (hu : ∀ x, x ∈ uRp q' ↔ x = corr ∨ x ∈ uRp c.rpq) : VolH { c with rpq := q' } hev (some corr) :=
  { h with
    o_sub := fun t ht => (hu t).mpr (.inr (h.o_sub t ht))
    hr_sub := fun x hx => (hu x).mpr (.inr (h.hr_sub x hx))
    u_rp := by
      intro x hx
      rcases (hu x).mp hx with rfl | hx'
      · exact .inl rfl
      · exact (h.u_rp x hx').elim (nomatch ·) .inr
    free_rp := fun x e => by
      cases e
      exact ⟨fun ht => hid (h.o_sub _ ht), fun hh => hid (h.hr_sub _ hh)⟩ }

theorem VolH.disarm (h : VolH c none rp) (hin : id ∈ c.timers) (hnh : id ∉ heldE c.joins) :
    VolH { c with timers := c.timers.erase id } (some id) rp :=
  { h with
    tnd := h.tnd.erase id
    t_sub := fun t ht => h.t_sub t (List.mem_of_mem_erase ht)
    u_ev := by
      intro x hx
      rcases h.u_ev x hx with e | ht | e
      · cases e
      · by_cases hxi : x = id
        · exact .inl (hxi ▸ rfl)
        · exact .inr (.inl (h.tnd.mem_erase_iff.mpr ⟨hxi, ht⟩))
      · exact .inr (.inr e)
    t_kind := fun e he ht => h.t_kind e he (List.mem_of_mem_erase ht)
    tp := fun t ht => h.tp t (List.mem_of_mem_erase ht)
    free_ev := fun x e => by
      cases e
      exact ⟨fun ht => (h.tnd.mem_erase_iff.mp ht).1 rfl, h.tp _ hin, hnh⟩ }

theorem VolH.arm (h : VolH c (some id) rp) (hin : id ∈ uEv c.evq)
    (hk : ∀ e ∈ c.evq, e.id = id → timerKind e.kind = true) :
    VolH { c with timers := insertNat id c.timers } none rp :=
  { h with
    tnd := nodup_insertNat h.tnd
    t_sub := fun t ht => (mem_insertNat.mp ht).elim (· ▸ hin) (h.t_sub t)
    u_ev := by
      intro x hx
      rcases h.u_ev x hx with e | ht | e
      · exact .inr (.inl (mem_insertNat.mpr (.inl (Option.some.inj e).symm)))
      · exact .inr (.inl (mem_insertNat.mpr (.inr ht)))
      · exact .inr (.inr e)
    t_kind := fun e he ht => (mem_insertNat.mp ht).elim (hk e he) (h.t_kind e he)
    tp := fun t ht => (mem_insertNat.mp ht).elim (· ▸ (h.free_ev id rfl).2.1) (h.tp t)
    free_ev := fun _ e => nomatch e }

theorem VolH.unregister (h : VolH c none rp) (hin : id ∈ c.pending) (hnh : id ∉ heldE c.joins) :
    VolH { c with pending := c.pending.erase id } (some id) rp :=
  { h with
    pnd := h.pnd.erase id
    p_sub := fun t ht => h.p_sub t (List.mem_of_mem_erase ht)
    u_ev := by
      intro x hx
      rcases h.u_ev x hx with e | ht | hp | e
      · cases e
      · exact .inr (.inl ht)
      · by_cases hxi : x = id
        · exact .inl (hxi ▸ rfl)
        · exact .inr (.inr (.inl (h.pnd.mem_erase_iff.mpr ⟨hxi, hp⟩)))
      · exact .inr (.inr (.inr e))
    p_kind := fun e he ht => h.p_kind e he (List.mem_of_mem_erase ht)
    tp := fun t ht hp => h.tp t ht (List.mem_of_mem_erase hp)
    free_ev := fun x e => by
      cases e
      exact ⟨fun ht => h.tp _ ht hin, fun hp => (h.pnd.mem_erase_iff.mp hp).1 rfl, hnh⟩ }

theorem VolH.register (h : VolH c (some id) rp) (hin : id ∈ uEv c.evq) (hs : id ∈ c.sent)
    (hk : ∀ e ∈ c.evq, e.id = id → isTaskKind e.kind = true) :
    VolH { c with pending := insertNat id c.pending } none rp :=
  { h with
    pnd := nodup_insertNat h.pnd
    p_sub := fun t ht => (mem_insertNat.mp ht).elim (fun e => e ▸ (⟨hin, hs⟩ : id ∈ uEv c.evq ∧ id ∈ c.sent)) (h.p_sub t)
    u_ev := by
      intro x hx
      rcases h.u_ev x hx with e | ht | hp | e
      · exact .inr (.inr (.inl (mem_insertNat.mpr (.inl (Option.some.inj e).symm))))
      · exact .inr (.inl ht)
      · exact .inr (.inr (.inl (mem_insertNat.mpr (.inr hp))))
      · exact .inr (.inr (.inr e))
    p_kind := fun e he ht => (mem_insertNat.mp ht).elim (hk e he) (h.p_kind e he)
    tp := fun t ht hp => (mem_insertNat.mp hp).elim (fun e => (h.free_ev id rfl).1 (e ▸ ht)) (h.tp t ht)
    free_ev := fun _ e => nomatch e }

theorem VolH.unretain (h : VolH c hev none) (hnh : corr ∉ heldR c.joins) :
    VolH { c with orphans := c.orphans.erase corr } hev (some corr) :=
  { h with
    ond := h.ond.erase corr
    o_sub := fun t ht => h.o_sub t (List.mem_of_mem_erase ht)
    u_rp := by
      intro x hx
      rcases h.u_rp x hx with e | ho | e
      · cases e
      · by_cases hxi : x = corr
        · exact .inl (hxi ▸ rfl)
        · exact .inr (.inl (h.ond.mem_erase_iff.mpr ⟨hxi, ho⟩))
      · exact .inr (.inr e)
    free_rp := fun x e => by
      cases e
      exact ⟨fun ht => (h.ond.mem_erase_iff.mp ht).1 rfl, hnh⟩ }

theorem VolH.retain (h : VolH c hev (some corr)) (hin : corr ∈ uRp c.rpq) :
    VolH { c with orphans := insertNat corr c.orphans } hev none :=
  { h with
    ond := nodup_insertNat h.ond
    o_sub := fun t ht => (mem_insertNat.mp ht).elim (· ▸ hin) (h.o_sub t)
    u_rp := by
      intro x hx
      rcases h.u_rp x hx with e | ho | e
      · exact .inr (.inl (mem_insertNat.mpr (.inl (Option.some.inj e).symm)))
      · exact .inr (.inl (mem_insertNat.mpr (.inr ho)))
      · exact .inr (.inr e)
    free_rp := fun _ e => nomatch e }

theorem VolH.hold (h : VolH c (some id) rp) {js : List Join} (hin : id ∈ uEv c.evq) (hrin : ∀ x, rp = some x → x ∈ uRp c.rpq)
    (hE : ∀ x, x ∈ heldE js ↔ x = id ∨ x ∈ heldE c.joins) (hR : ∀ x, x ∈ heldR js ↔ rp = some x ∨ x ∈ heldR c.joins) :
    VolH { c with joins := js } none none :=
  { h with
    he_sub := fun x hx => ((hE x).mp hx).elim (· ▸ hin) (h.he_sub x)
    hr_sub := fun x hx => ((hR x).mp hx).elim (hrin x) (h.hr_sub x)
    u_ev := by
      intro x hx
      rcases h.u_ev x hx with e | ht | hp | e
      · exact .inr (.inr (.inr ((hE x).mpr (.inl (Option.some.inj e).symm))))
      · exact .inr (.inl ht)
      · exact .inr (.inr (.inl hp))
      · exact .inr (.inr (.inr ((hE x).mpr (.inr e))))
    u_rp := by
      intro x hx
      rcases h.u_rp x hx with e | ho | e
      · exact .inr (.inr ((hR x).mpr (.inl e)))
      · exact .inr (.inl ho)
      · exact .inr (.inr ((hR x).mpr (.inr e)))
    free_ev := fun _ e => nomatch e
    free_rp := fun _ e => nomatch e }

theorem VolH.pubEv (h : VolH c hev rp) (hlt : ∀ x ∈ uEv c.evq, x < c.nextId) (k : EvKind) : VolH (c.act (.pubEv k)) hev rp :=
  have hnew : ∀ x ∈ uEv c.evq, ∀ e ∈ (c.act (.pubEv k)).evq, e.id = x → e ∈ c.evq := fun x hx e he hi =>
    (List.mem_append.mp he).elim id fun he => by
      simp only [List.mem_singleton] at he
      subst he hi
      exact absurd (hlt _ hx) (Nat.lt_irrefl _)
  { h with
    t_sub := fun t ht => uEv_pubEv c k ▸ h.t_sub t ht
    p_sub := fun t ht => ⟨uEv_pubEv c k ▸ (h.p_sub t ht).1, (h.p_sub t ht).2⟩
    he_sub := fun t ht => uEv_pubEv c k ▸ h.he_sub t ht
    u_ev := fun x hx => h.u_ev x (uEv_pubEv c k ▸ hx)
    t_kind := fun e he ht => h.t_kind e (hnew _ (h.t_sub _ ht) e he rfl) ht
    p_kind := fun e he ht => h.p_kind e (hnew _ (h.p_sub _ ht).1 e he rfl) ht }

theorem VolH.ackEv (h : VolH c (some id) rp) : VolH (c.act (.ackEv id)) none rp :=
  have hne : ∀ x, x ∈ c.timers ∨ x ∈ c.pending ∨ x ∈ heldE c.joins → x ≠ id := fun _ hx e =>
    have := h.free_ev id rfl
    hx.elim (fun a => this.1 (e ▸ a)) fun a => a.elim (fun a => this.2.1 (e ▸ a)) (fun a => this.2.2 (e ▸ a))
  { h with
    t_sub := fun t ht => mem_uEv_ackEv.mpr ⟨hne t (.inl ht), h.t_sub t ht⟩
    p_sub := fun t ht => ⟨mem_uEv_ackEv.mpr ⟨hne t (.inr (.inl ht)), (h.p_sub t ht).1⟩, (h.p_sub t ht).2⟩
    he_sub := fun t ht => mem_uEv_ackEv.mpr ⟨hne t (.inr (.inr ht)), h.he_sub t ht⟩
    u_ev := fun x hx => (h.u_ev x (mem_uEv_ackEv.mp hx).2).elim
      (fun e => absurd (Option.some.inj e).symm (mem_uEv_ackEv.mp hx).1) .inr
    t_kind := fun e he => h.t_kind e (List.mem_filter.mp he).1
    p_kind := fun e he => h.p_kind e (List.mem_filter.mp he).1
    free_ev := fun _ e => nomatch e }

theorem VolH.ackRp (h : VolH c hev (some corr)) (hnd : (rpC c).Nodup) : VolH (c.act (.ackRp corr)) hev none :=
  have hne : ∀ x, x ∈ c.orphans ∨ x ∈ heldR c.joins → x ≠ corr := fun _ hx e =>
    have := h.free_rp corr rfl
    hx.elim (fun a => this.1 (e ▸ a)) (fun a => this.2 (e ▸ a))
  { h with
    o_sub := fun t ht => (mem_uRp_ackRp hnd).mpr ⟨hne t (.inl ht), h.o_sub t ht⟩
    hr_sub := fun t ht => (mem_uRp_ackRp hnd).mpr ⟨hne t (.inr ht), h.hr_sub t ht⟩
    u_rp := fun x hx => (h.u_rp x ((mem_uRp_ackRp hnd).mp hx).2).elim
      (fun e => absurd (Option.some.inj e).symm ((mem_uRp_ackRp hnd).mp hx).1) .inr
    free_rp := fun _ e => nomatch e }

theorem VolH.running (h : VolH c hev rp) (run : Nat) : VolH { c with running := run } hev rp := { h with }

theorem VolH.pubReq (h : VolH c hev rp) (y : Nat) : VolH (c.act (.pubReq y)) hev rp :=
  { h with
    p_sub := fun t ht => ⟨(h.p_sub t ht).1, List.mem_append_left _ (h.p_sub t ht).2⟩
    o_sub := fun t ht => uRp_pubReq c y ▸ h.o_sub t ht
    hr_sub := fun t ht => uRp_pubReq c y ▸ h.hr_sub t ht
    u_rp := fun t ht => h.u_rp t (uRp_pubReq c y ▸ ht) }

theorem VolH.note (h : VolH c hev rp) (t : Bool) : VolH (c.act (.note t)) hev rp := by
  cases t <;> exact { h with }

end
end Asl.Crash
