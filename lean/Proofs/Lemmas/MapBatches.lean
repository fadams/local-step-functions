/-
Map batches after a failure (`runItems`, AslModel/Interp.lean).  With `MaxConcurrency` n > 0 the iterations
run in batches of n; once an iteration has failed no further batch is launched.  The general statement: at a
batch boundary, if an iteration has failed (the flag `bad`, or the run of the items up to the boundary ends in
a failure), whatever items follow the boundary change nothing — not the result, not the state (log, instants,
request counts, clock, frames).
-/
import AslModel.Interp
namespace Asl

/-- the iterations ended with the failure of one of them (not fuel exhaustion, not an unsupported construct) -/
def isFailure : Except Res (List Json) → Bool
  | .error (.failed _ _ _) => true
  | _ => false

theorem fanCombine_failure {r : Res} {t : Rat} {rest : Except Res (List Json)} {st2 : St} {tOk : Rat}
    (h : isFailure (fanCombine r t rest st2 tOk).1 = true) : isFailed r = true ∨ isFailure rest = true := by
  unfold fanCombine at h
  cases r with
  | failed e c f => exact .inl rfl
  | _ =>
    right
    cases rest with
    | ok vs => simp [isFailure] at h
    | error e => cases e <;> simp_all [isFailure]

/-- a positive multiple of `m` is at least `m` -/
theorem le_of_boundary {m a b : Nat} (ha : a % m = 0) (hab : (a + (b + 1)) % m = 0) : m ≤ b + 1 := by
  have h1 : m ∣ a := Nat.dvd_of_mod_eq_zero ha
  have h2 : m ∣ a + (b + 1) := Nat.dvd_of_mod_eq_zero hab
  exact Nat.le_of_dvd (Nat.succ_pos b) ((Nat.dvd_add_right h1).mp h2)

theorem runItems_append_after_failure (env : Env) (proc : Json) (sel : Option Json) (input : Json) (rest : List Json)
    (mc : Nat) (hmc : mc ≠ 0) (ctx : Json) :
    ∀ (items : List Json) (fuel i : Nat) (be : Rat) (bad : Bool) (st : St),
      i + items.length ≠ 0 → (i + items.length) % mc = 0 →
      (bad = true ∨ isFailure (runItems env fuel proc sel input items i mc be ctx bad st).1 = true) →
      runItems env fuel proc sel input (items ++ rest) i mc be ctx bad st =
        runItems env fuel proc sel input items i mc be ctx bad st := by
  intro items
  induction items with
  | nil =>
    intro fuel i be bad st hi hb hf
    cases fuel with
    | zero => rfl
    | succ n =>
      -- no iteration is left that could fail: one before the boundary has
      have hbad : bad = true := hf.resolve_right nofun
      cases rest with
      | nil => rfl
      | cons x xs => exact if_pos ⟨hmc, hi, hb, hbad⟩
  | cons item items ih =>
    -- the hypothesis on the run of `item :: items` stays in the goal: a `split` decides a `match` there and on both sides
    intro fuel i be bad st hi hb
    cases fuel with
    | zero => exact fun _ => rfl
    | succ n =>
      rw [List.cons_append]
      unfold runItems
      split
      · exact fun _ => rfl
      -- the state the batch starts from is the same on both sides: a full batch follows in either list
      generalize h0' : (if mc ≠ 0 ∧ i ≠ 0 ∧ i % mc = 0 then
        St.batch _ _ (List.replicate (min mc ((items ++ rest).length + 1)) _) else st) = st0'
      generalize h0 : (if mc ≠ 0 ∧ i ≠ 0 ∧ i % mc = 0 then St.batch _ _ _ else st) = st0
      obtain rfl : st0' = st0 := by
        rw [← h0', ← h0]
        split
        · rename_i hc
          have hle := le_of_boundary hc.2.2 hb
          rw [List.length_append, Nat.min_eq_left (by omega), Nat.min_eq_left hle]
        · rfl
      dsimp only
      split
      · exact fun _ => rfl
      split
      · generalize runFrom env n _ _ _ ctx 0 _ = p
        intro hf
        rw [ih n (i + 1) _ _ _ (by omega) (by rwa [List.length_cons, Nat.add_comm _ 1, ← Nat.add_assoc] at hb)]
        -- the failure is this iteration's or a later one's
        rcases hf with h | h
        · exact .inl (by rw [h, Bool.true_or])
        · exact (fanCombine_failure h).imp_left fun h' => by rw [h', Bool.or_true]
      · exact fun _ => rfl

end Asl
