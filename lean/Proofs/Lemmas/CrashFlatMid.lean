/-
Flat skeletons, continued: a handler invocation on `Hand` is a take — the broker delivers a message, or the engine takes one
out of a registry — then a put (`M`: the measure before the handler).
-/
import Proofs.Lemmas.CrashFlat
namespace Asl.Crash

section
variable {N M : Nat} {c d : Cfg} {id corr : Nat} {hev rp : Option Nat}

/-- the broker delivers `m`: it is in hand, and five units of `mu2` are paid.  (`run`: a delivering handler also notes that the
execution runs; no part of `Hand` reads that.) -/
theorem Hand.deliver (h : Hand N c none rp) {l1 l2 : List QEv} {m m' : QEv} (he : c.evq = l1 ++ m :: l2)
    (h1 : ∀ e ∈ l1, e.id ≠ m.id) (h2 : ∀ e ∈ l2, e.id ≠ m.id) (hu : m.unacked = false)
    (hid' : m'.id = m.id) (hk' : m'.kind = m.kind) (hu' : m'.unacked = true) (run : Nat) :
    Hand N { c with evq := l1 ++ m' :: l2, running := run } (some m.id) rp ∧
      mu2 { c with evq := l1 ++ m' :: l2, running := run } + 5 = mu2 c := by
  have hevk : evK { c with evq := l1 ++ m' :: l2 } = evK c := by
    simp only [evK, he, List.map_append, List.map_cons, hid', hk']
  have hv := (h.vol.deliver (not_mem_uEv_ready he h1 h2 hu) (mem_uEv_marked he hid' hu hu') hevk).running run
  refine ⟨h.regs hv hevk rfl regs_self regs_self regs_self, ?_⟩
  -- (here and below `omega` would do too; its proofs over the sums of `mu2` are slow to check)
  simp +arith only [mu2, he, evW, List.map_append, List.map_cons, List.sum_append, List.sum_cons, hu, hu', hk', Bool.false_eq_true,
    if_true, if_false]

theorem Hand.disarm (h : Hand N c none rp) (hc : id ∈ c.timers) :
    Hand N { c with timers := c.timers.erase id } (some id) rp ∧ mu2 { c with timers := c.timers.erase id } + 3 = mu2 c := by
  refine ⟨h.regs (h.vol.disarm hc fun hh => (h.join.ht _ hh).1 hc) rfl rfl regs_erase regs_self regs_self, ?_⟩
  simp +arith only [mu2, ← length_erase_mem hc]

theorem Hand.unregister (h : Hand N c none rp) (hp : id ∈ c.pending) :
    Hand N { c with pending := c.pending.erase id } (some id) rp ∧ mu2 { c with pending := c.pending.erase id } + 1 = mu2 c := by
  refine ⟨h.regs (h.vol.unregister hp fun hh => (h.join.ht _ hh).2 hp) rfl rfl regs_self regs_erase regs_self, ?_⟩
  simp +arith only [mu2, ← length_erase_mem hp]

theorem Hand.deliverRp (h : Hand N c hev none) {k1 k2 : List QRp} {r r' : QRp} (hr : c.rpq = k1 ++ r :: k2)
    (g1 : ∀ e ∈ k1, e.corr ≠ r.corr) (g2 : ∀ e ∈ k2, e.corr ≠ r.corr) (hru : r.unacked = false)
    (hr'c : r'.corr = r.corr) (hr'u : r'.unacked = true) :
    Hand N { c with rpq := k1 ++ r' :: k2 } hev (some r.corr) ∧ r.corr ∈ uRp (k1 ++ r' :: k2) ∧
      mu2 { c with rpq := k1 ++ r' :: k2 } + 1 = mu2 c := by
  have hv := h.vol.deliverRp (not_mem_uRp_ready hr g1 g2 hru) (mem_uRp_marked hr hr'c hru hr'u)
  refine ⟨h.regs hv rfl (by simp [rpC, hr, hr'c]) regs_self regs_self regs_self, (mem_uRp_marked hr hr'c hru hr'u _).mpr (.inl rfl), ?_⟩
  simp +arith only [mu2, ← ready_marked hr hru hr'u]

theorem Hand.unretain (h : Hand N c hev none) (hnr : corr ∉ heldR c.joins) :
    Hand N { c with orphans := c.orphans.erase corr } hev (some corr) :=
  h.regs (h.vol.unretain hnr) rfl rfl regs_self regs_self regs_erase

theorem Hand.pubReq {b : Option Nat} {m : QEv} (h : Hand N c (some m.id) b) (hm : m ∈ c.evq)
    (htk : isTaskKind m.kind = true) (hsn : m.id ∉ c.sent) :
    Hand N (c.act (.pubReq m.id)) (some m.id) b ∧ mu2 (c.act (.pubReq m.id)) = mu2 c + 1 :=
  ⟨⟨h.dur.pubReq ⟨_, mem_evK hm, rfl, htk⟩ hsn, h.vol.pubReq m.id, h.shape.congr id,
    h.join.regs rfl rfl (fun _ hx => List.mem_append_left _ hx)
      (fun x hx hd => (List.mem_append.mp hd).elim id fun e => absurd (List.mem_singleton.mp e ▸ hx) (h.vol.free_ev _ rfl).2.2)
      regs_self regs_self regs_self,
    h.cons.send h.dur hm hsn rfl (by simp [rpC, Cfg.act]) rfl rfl⟩, by simp +arith [mu2, Cfg.act, List.filter_append]⟩

theorem Hand.arm {m : QEv} (h : Hand N d (some m.id) none) (hm : m ∈ d.evq) (hu : m.unacked = true) (hk : timerKind m.kind = true)
    (hM : mu2 d + 4 ≤ M) :
    PInv N { d with timers := insertNat m.id d.timers } ∧ mu2 { d with timers := insertNat m.id d.timers } < M := by
  have hfree := h.vol.free_ev m.id rfl
  have hkd := fun e he hi => kind_at (d := d) rfl h.dur.idnd hm e he hi ▸ hk
  refine ⟨(h.regs (h.vol.arm (mem_uEv.mpr ⟨m, hm, hu, rfl⟩) hkd) rfl rfl (regs_insertNat hfree.2.2) regs_self regs_self).pinv, ?_⟩
  simp +arith only [mu2, length_insertNat_new hfree.1] at hM ⊢
  exact hM

theorem Hand.register {m : QEv} (h : Hand N d (some m.id) none) (hm : m ∈ d.evq) (hu : m.unacked = true) (hs : m.id ∈ d.sent)
    (hk : isTaskKind m.kind = true) (hM : mu2 d + 2 ≤ M) :
    PInv N { d with pending := insertNat m.id d.pending } ∧ mu2 { d with pending := insertNat m.id d.pending } < M := by
  have hfree := h.vol.free_ev m.id rfl
  have hkd := fun e he hi => kind_at (d := d) rfl h.dur.idnd hm e he hi ▸ hk
  refine ⟨(h.regs (h.vol.register (mem_uEv.mpr ⟨m, hm, hu, rfl⟩) hs hkd) rfl rfl regs_self (regs_insertNat hfree.2.2) regs_self).pinv, ?_⟩
  simp +arith only [mu2, length_insertNat_new hfree.2.1] at hM ⊢
  exact hM

theorem Hand.retain (h : Hand N d none (some corr)) (hin : corr ∈ uRp d.rpq) (hM : mu2 d < M) :
    PInv N { d with orphans := insertNat corr d.orphans } ∧ mu2 { d with orphans := insertNat corr d.orphans } < M :=
  ⟨(h.regs (h.vol.retain hin) rfl rfl regs_self regs_self (regs_insertNat (h.vol.free_rp corr rfl).2)).pinv, hM⟩

end

/-- inside a handler that completes the visit of event `mid` (with the reply `rp`): both are in hand -/
structure Mid (N : Nat) (d : Cfg) (mid : Nat) (rp : Option Nat) : Prop where
  dur : Dur FlatK d
  vol : VolH d (some mid) rp
  shape : Shape d
  join : JInv d
  cons : Cons2 N d
  inhand : mid ∈ uEv d.evq
  rpok : ∀ r, rp = some r → r = mid ∧ r ∈ uRp d.rpq ∧ mid ∈ d.sent
  norp : rp = none → mid ∉ d.sent

theorem Hand.mid {N : Nat} {d : Cfg} {mid : Nat} {rp : Option Nat} (h : Hand N d (some mid) rp) (hin : mid ∈ uEv d.evq)
    (rpok : ∀ r, rp = some r → r = mid ∧ r ∈ uRp d.rpq ∧ mid ∈ d.sent) (norp : rp = none → mid ∉ d.sent) : Mid N d mid rp :=
  ⟨h.dur, h.vol, h.shape, h.join, h.cons, hin, rpok, norp⟩

theorem Mid.isSome_iff {N : Nat} {d : Cfg} {mid : Nat} {rp : Option Nat} (h : Mid N d mid rp) : rp.isSome = true ↔ mid ∈ d.sent := by
  cases rp with
  | none => simp [h.norp rfl]
  | some r => simp [(h.rpok r rfl).2.2]

/-- the reply in hand acknowledged first (the handlers do that last, but only `Dur` minds the order) -/
theorem Mid.acked {N : Nat} {d : Cfg} {mid : Nat} {rp : Option Nat} (h : Mid N d mid rp) :
    VolH { d with rpq := ackedRpq rp d.rpq } (some mid) none ∧ Cons2 N { d with rpq := ackedRpq rp d.rpq } ∧
      ∀ x ∈ rpC { d with rpq := ackedRpq rp d.rpq }, x ≠ mid := by
  cases rp with
  | none => exact ⟨h.vol, h.cons, fun x hx e => h.norp rfl (e ▸ h.dur.corrsent x hx)⟩
  | some r =>
    obtain ⟨rfl, hrin, -⟩ := h.rpok r rfl
    exact ⟨h.vol.ackRp h.dur.corrnd, h.cons.ackRp r, fun x => mem_rpC_ackRp h.dur.corrnd hrin⟩

theorem evK_split (l1 l2 : List QEv) (m : QEv) :
    (l1 ++ m :: l2).map (fun e => (e.id, e.kind)) = l1.map (fun e => (e.id, e.kind)) ++ (m.id, m.kind) :: l2.map (fun e => (e.id, e.kind)) := by
  simp

/-- an event that is handled in one go is delivered: it is in hand -/
theorem mid_ev {N : Nat} {c : Cfg} (h : PInv N c) {l1 l2 : List QEv} {m m' : QEv} (he : c.evq = l1 ++ m :: l2)
    (h1 : ∀ e ∈ l1, e.id ≠ m.id) (h2 : ∀ e ∈ l2, e.id ≠ m.id) (hu : m.unacked = false)
    (hid' : m'.id = m.id) (hk' : m'.kind = m.kind) (hu' : m'.unacked = true) (hnt : isTaskKind m.kind = false) (run : Nat) :
    Mid N { c with evq := l1 ++ m' :: l2, running := run } m.id none ∧
      mu2 { c with evq := l1 ++ m' :: l2, running := run } < mu2 c := by
  obtain ⟨hH, hmu⟩ := h.hand.deliver he h1 h2 hu hid' hk' hu' run
  exact ⟨hH.mid (mem_uEv.mpr ⟨m', by simp, hu', hid'⟩) nofun fun _ hh => by
    simpa [hnt] using (h.dur.reply _ (mem_evK (he ▸ by simp)) hh).1, by omega⟩

/-- the deferred handler of a Wait (or of an empty fan-out) runs: its event is in hand -/
theorem mid_tm {N : Nat} {c : Cfg} (h : PInv N c) {l1 l2 : List QEv} {m : QEv} (he : c.evq = l1 ++ m :: l2)
    (h1 : ∀ e ∈ l1, e.id ≠ m.id) (h2 : ∀ e ∈ l2, e.id ≠ m.id) (hu : m.unacked = true)
    (hc : m.id ∈ c.timers) (hnt : isTaskKind m.kind = false) :
    Mid N { c with timers := c.timers.erase m.id } m.id none ∧
      mu2 { c with timers := c.timers.erase m.id } < mu2 c := by
  obtain ⟨hH, hmu⟩ := h.hand.disarm hc
  exact ⟨hH.mid (h.vol.t_sub _ hc) nofun fun _ hh => by simpa [hnt] using (h.dur.reply _ (mem_evK (he ▸ by simp)) hh).1, by omega⟩

/-- a reply is delivered to the Task that waits for it: event and reply are in hand -/
theorem mid_rp {N : Nat} {c : Cfg} (h : PInv N c) {l1 l2 : List QEv} {m : QEv} (he : c.evq = l1 ++ m :: l2)
    (h1 : ∀ e ∈ l1, e.id ≠ m.id) (h2 : ∀ e ∈ l2, e.id ≠ m.id) (hu : m.unacked = true) (hp : m.id ∈ c.pending)
    {k1 k2 : List QRp} {r r' : QRp} (hr : c.rpq = k1 ++ r :: k2) (hrc : r.corr = m.id)
    (g1 : ∀ e ∈ k1, e.corr ≠ r.corr) (g2 : ∀ e ∈ k2, e.corr ≠ r.corr) (hru : r.unacked = false)
    (hr'c : r'.corr = r.corr) (hr'u : r'.unacked = true) :
    Mid N { c with rpq := k1 ++ r' :: k2, pending := c.pending.erase m.id } m.id (some m.id) ∧
      mu2 { c with rpq := k1 ++ r' :: k2, pending := c.pending.erase m.id } < mu2 c := by
  obtain ⟨hH, hin, hmu⟩ := h.hand.deliverRp hr g1 g2 hru hr'c hr'u
  rw [hrc] at hH hin
  have hmu' : mu2 { c with rpq := k1 ++ r' :: k2, pending := c.pending.erase m.id } + 1 = mu2 { c with rpq := k1 ++ r' :: k2 } :=
    (hH.unregister hp).2
  refine ⟨(hH.unregister hp).1.mid (h.vol.p_sub _ hp).1 (fun x hx => ?_) nofun, by omega⟩
  cases hx
  exact ⟨rfl, hin, (h.vol.p_sub _ hp).2⟩

/-- the orphan handler matches a retained reply with the Task that now waits for it -/
theorem mid_tick {N : Nat} {c : Cfg} (h : PInv N c) {m : QEv} (hm : m ∈ c.evq) (hu : m.unacked = true)
    (hp : m.id ∈ c.pending) (ho : m.id ∈ c.orphans) :
    Mid N { c with orphans := c.orphans.erase m.id, pending := c.pending.erase m.id } m.id (some m.id) ∧
      mu2 { c with orphans := c.orphans.erase m.id, pending := c.pending.erase m.id } < mu2 c := by
  -- a reply is retained or held, not both: its event would be held as well, but it waits for the reply
  have hnr : m.id ∉ heldR c.joins := fun hh => (h.join.ht _ (h.join.heldR_heldE hh)).2 hp
  have hmu : mu2 { c with orphans := c.orphans.erase m.id, pending := c.pending.erase m.id } + 1 = mu2 c :=
    ((h.hand.unretain hnr).unregister hp).2
  refine ⟨((h.hand.unretain hnr).unregister hp).1.mid (h.vol.p_sub _ hp).1 (fun x hx => ?_) nofun, by omega⟩
  cases hx
  exact ⟨rfl, h.vol.o_sub _ ho, (h.vol.p_sub _ hp).2⟩

end Asl.Crash
