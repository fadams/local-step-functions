/- Objects as association lists, and one step of `put`; `exceptDecEq` for the files with test vectors. -/
import AslModel.Path
namespace Asl

/-- Not an instance: the files that evaluate test vectors switch it on locally. -/
@[instance_reducible] def exceptDecEq {ε α : Type} [DecidableEq ε] [DecidableEq α] : DecidableEq (Except ε α)
  | .ok a, .ok b => if h : a = b then isTrue (h ▸ rfl) else isFalse fun e => h (Except.ok.inj e)
  | .error a, .error b =>
    if h : a = b then isTrue (h ▸ rfl) else isFalse fun e => h (Except.error.inj e)
  | .ok _, .error _ => isFalse nofun
  | .error _, .ok _ => isFalse nofun

@[simp] theorem objGet_objSet_same (kvs : List (Str × Json)) (k : Str) (v : Json) :
    objGet (objSet kvs k v) k = some v := by
  fun_induction objSet kvs k v <;> simp_all [objGet]

theorem objGet_objSet_ne (kvs : List (Str × Json)) (k k2 : Str) (v : Json) (h : k ≠ k2) :
    objGet (objSet kvs k v) k2 = objGet kvs k2 := by
  fun_induction objSet kvs k v <;> simp_all [objGet]

theorem objGet_mem {kvs : List (Str × Json)} {n : Str} {s : Json} (h : objGet kvs n = some s) :
    (n, s) ∈ kvs := by
  fun_induction objGet kvs n <;> simp_all

theorem objGet_append (a b : List (Str × Json)) (k : Str) :
    objGet (a ++ b) k = (objGet a k).or (objGet b k) := by
  fun_induction objGet a k <;> simp_all [objGet]

theorem objHas_objSet_ne (acc : List (Str × Json)) (k k' : Str) (v : Json) (h : k ≠ k') :
    objHas (objSet acc k v) k' = objHas acc k' := by
  simp [objHas, objGet_objSet_ne acc k k' v h]

theorem objHas_eq_any (kvs : List (Str × Json)) (k : Str) :
    objHas kvs k = kvs.any fun kv => kv.1 = k := by
  fun_induction objGet kvs k <;> simp_all [objHas, objGet]

theorem objSet_append_new (acc : List (Str × Json)) (k : Str) (v : Json)
    (h : objHas acc k = false) : objSet acc k v = acc ++ [(k, v)] := by
  fun_induction objSet acc k v <;> simp_all [objHas, objGet]

theorem listSet_eq (xs : List Json) (i : Nat) (v : Json) : listSet xs i v = xs.set i v := by
  fun_induction listSet xs i v <;> simp [*]

@[simp] theorem listSet_length (xs : List Json) (i : Nat) (v : Json) :
    (listSet xs i v).length = xs.length := by
  rw [listSet_eq, List.length_set]

/-- what is asked of `b` is `C12.SegDiff k b` -/
theorem put_cons_step {d d' v : Json} {k : Str} {ks : List Str} (h : put d (k :: ks) v = .ok d') :
    ∃ sub', put ((getStep d k).getD (.obj [])) ks v = .ok sub' ∧ getStep d' k = some sub' ∧
      ∀ b, k ≠ b → (isDigits k = true → isDigits b = true → digitsVal k ≠ digitsVal b) →
        getStep d' b = getStep d b := by
  -- of the arms of `put`, `h` refutes all but the two that return `.ok`
  generalize hp : k :: ks = p at h
  fun_induction put d p v <;> cases hp <;> cases h
  · rename_i xs sub sub' hd hsub hput _
    have hlt : digitsVal k < xs.length := (List.getElem?_eq_some_iff.mp hsub).1
    refine ⟨sub', by simpa [getStep, hd, hsub] using hput,
      by simp [getStep, hd, listSet_eq, List.getElem?_set_self hlt], fun b _ hb => ?_⟩
    by_cases hb' : isDigits b = true
    · simp [getStep, hb', listSet_eq, List.getElem?_set_ne (hb hd hb')]
    · simp [getStep, hb']
  · rename_i kvs sub' _ hput _
    exact ⟨sub', hput, by simp [getStep], fun b hb _ => by simp [getStep, objGet_objSet_ne _ _ _ _ hb]⟩

end Asl
