/- For C10's refinement theorem: the association-list stores of the reference
model denote the finite maps of the specification, and every write / answer commutes with that -/
import Proofs.Lemmas.ApiStep
import Proofs.Lemmas.Store
import AslModel.ApiSpec
namespace Asl.Api

/-! `lookup`, `insert`, `erase`, `keys` are the store model's `aGet`, `aSet`, `aDel`, `aKeys` under other names; their laws
are those of Lemmas/Store.lean. -/
section KeyedStore
open Asl.Store (aGet aSet aDel aKeys)

variable {α : Type}

theorem lookup_eq_aGet (m : List (Str × α)) (k : Str) : lookup m k = aGet m k := by
  induction m with
  | nil => rfl
  | cons kv rest ih => simp only [lookup, aGet, ih]

theorem insert_eq_aSet (m : List (Str × α)) (k : Str) (v : α) : insert m k v = aSet m k v := by
  induction m with
  | nil => rfl
  | cons kv rest ih => simp only [insert, aSet, ih]

theorem erase_eq_aDel (m : List (Str × α)) (k : Str) : erase m k = aDel m k := by
  fun_induction erase m k <;> simp_all [aDel]

theorem keys_eq_aKeys (m : List (Str × α)) : keys m = aKeys m := rfl

theorem lookup_insert_same (m : List (Str × α)) (k : Str) (v : α) :
    lookup (insert m k v) k = some v := by
  simp only [lookup_eq_aGet, insert_eq_aSet, Store.aGet_aSet, if_true]

theorem lookup_insert_ne (m : List (Str × α)) (k k2 : Str) (v : α) (h : k ≠ k2) :
    lookup (insert m k v) k2 = lookup m k2 := by
  simp only [lookup_eq_aGet, insert_eq_aSet, Store.aGet_aSet, if_neg (Ne.symm h)]

theorem lookup_erase_same (m : List (Str × α)) (k : Str) : lookup (erase m k) k = none := by
  simp only [lookup_eq_aGet, erase_eq_aDel, Store.aGet_aDel, if_true]

theorem lookup_erase_ne (m : List (Str × α)) (k k2 : Str) (h : k ≠ k2) :
    lookup (erase m k) k2 = lookup m k2 := by
  simp only [lookup_eq_aGet, erase_eq_aDel, Store.aGet_aDel, if_neg (Ne.symm h)]

theorem lookup_insert (m : List (Str × α)) (k : Str) (v : α) :
    lookup (insert m k v) = Spec.set (lookup m) k (some v) := by
  funext k'
  simp only [Spec.set, lookup_eq_aGet, insert_eq_aSet, Store.aGet_aSet]

theorem lookup_erase (m : List (Str × α)) (k : Str) :
    lookup (erase m k) = Spec.set (lookup m) k none := by
  funext k'
  simp only [Spec.set, lookup_eq_aGet, erase_eq_aDel, Store.aGet_aDel]

theorem mem_keys_iff_lookup (m : List (Str × α)) (k : Str) :
    k ∈ keys m ↔ (lookup m k).isSome = true := by
  rw [lookup_eq_aGet]; exact (Store.aGet_isSome_iff m k).symm

theorem nodup_keys_insert (m : List (Str × α)) (k : Str) (v : α) (h : (keys m).Nodup) :
    (keys (insert m k v)).Nodup := by
  rw [insert_eq_aSet]; exact Store.aKeys_aSet_nodup m k v h

theorem nodup_keys_erase (m : List (Str × α)) (k : Str) (h : (keys m).Nodup) :
    (keys (erase m k)).Nodup := by
  rw [erase_eq_aDel]; exact Store.aKeys_aDel_nodup m k h

theorem mem_iff_lookup_of_nodup (m : List (Str × α)) (h : (keys m).Nodup) (k : Str) (v : α) :
    (k, v) ∈ m ↔ lookup m k = some v := by
  fun_induction lookup m k <;> grind [keys]

end KeyedStore

/-- only the two stores that are listed need distinct keys: `lookup` finds the first entry of a key -/
def WF (s : State) : Prop := (keys s.machines).Nodup ∧ (keys s.executions).Nodup

theorem abs_apply (s : State) (eff : Effect) : abs (s.apply eff) = (abs s).apply eff := by
  cases eff with
  | none => rfl
  | putMachine arn m => simp [State.apply, Spec.State.apply, abs, lookup_insert]
  | delMachine arn => simp [State.apply, Spec.State.apply, abs, lookup_erase]

theorem wf_apply_effect (s : State) (eff : Effect) (h : WF s) : WF (s.apply eff) := by
  cases eff with
  | none => exact h
  | putMachine arn m => exact ⟨nodup_keys_insert _ _ _ h.1, h.2⟩
  | delMachine arn => exact ⟨nodup_keys_erase _ _ h.1, h.2⟩

theorem answer_matches (env : Env) (s : State) (r : Reply) (h : WF s) :
    Spec.Matches (abs s) (s.answer env r) (Spec.answer env r) := by
  cases r with
  | json j => rfl
  | empty => rfl
  | machines =>
    exact ⟨s.machines, rfl, h.1, fun arn m => mem_iff_lookup_of_nodup _ h.1 _ _⟩
  | executions arn f =>
    refine ⟨s.executions.filter (fun kv => execMatches arn f kv.2), rfl,
      Store.aKeys_filter_nodup _ _ h.2, ?_⟩
    intro k e
    simp only [List.mem_filter, abs]
    rw [mem_iff_lookup_of_nodup _ h.2]
  | sync =>
    simp only [State.answer, Spec.answer]
    cases env.syncOutcome <;> rfl
  | publishFailed => rfl

/-- one request, answered by the reference model on `s` and by the specification on the maps `s` denotes -/
structure StepRefines (cfg : Cfg) (env : Env) (s : State) (c : Call) : Prop where
  answer : Spec.Matches (abs s) (step cfg env s c).2 (Spec.step cfg env (abs s) c).2.1
  published : published cfg env s c = (Spec.step cfg env (abs s) c).2.2
  state : abs (step cfg env s c).1 = (Spec.step cfg env (abs s) c).1
  wf : WF (step cfg env s c).1

theorem step_refines (cfg : Cfg) (env : Env) (s : State) (c : Call) (h : WF s) : StepRefines cfg env s c := by
  obtain ⟨a, ps⟩ := c
  cases ps with
  | none => exact ⟨rfl, rfl, rfl, h⟩
  | some j =>
    cases j with
    | obj p =>
      rcases hd : decideAction cfg env (lookup s.machines) (lookup s.executions) (lookup s.histories) a p with _ | ⟨e | v⟩
      all_goals constructor <;> simp only [step, published, Spec.step, handle, abs, hd]
      -- left: answer and key lists of the two ways of turning a request away; answer, stores and key lists of a verdict
      · rfl
      · exact h
      · rfl
      · exact h
      · exact answer_matches env s v.reply h
      · exact abs_apply s v.effect
      · exact wf_apply_effect s _ h
    | _ => exact ⟨rfl, rfl, rfl, h⟩

theorem apply_refines (cfg : Cfg) (s : State) (ev : Event) (h : WF s) :
    abs (apply cfg s ev) = Spec.apply cfg (abs s) ev ∧ WF (apply cfg s ev) := by
  cases ev with
  | call env c => exact ⟨(step_refines cfg env s c h).state, (step_refines cfg env s c h).wf⟩
  | engine arn e =>
    exact ⟨by simp [apply, Spec.apply, engineWrite, abs, lookup_insert], h.1, nodup_keys_insert _ _ _ h.2⟩
  | engineLog arn log => exact ⟨by simp [apply, Spec.apply, engineLog, abs, lookup_insert], h⟩

end Asl.Api
