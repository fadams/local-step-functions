/-
The queue operations of the crash protocol (AslModel/Crash.lean) — finding, marking and acknowledging a message in a queue
whose ids are distinct — and the list and sum facts the crash proofs use.
-/
import AslModel.Crash
namespace Asl.Crash

/-! ### lists -/

theorem eq_of_nodup_map {α β : Type} (f : α → β) {l : List α} (hnd : (l.map f).Nodup) {a b : α} (ha : a ∈ l) (hb : b ∈ l)
    (hab : f a = f b) : a = b := by
  induction l with
  | nil => cases ha
  | cons x xs ih =>
    simp only [List.map_cons, List.nodup_cons] at hnd
    rcases List.mem_cons.mp ha with h1 | h1 <;> rcases List.mem_cons.mp hb with h2 | h2
    · rw [h1, h2]
    · exact absurd (List.mem_map.mpr ⟨b, h2, by rw [← hab, h1]⟩) hnd.1
    · exact absurd (List.mem_map.mpr ⟨a, h1, by rw [hab, h2]⟩) hnd.1
    · exact ih hnd.2 h1 h2

theorem not_mem_of_eq_nil {α : Type} {l : List α} (h : l = []) {x : α} (hx : x ∈ l) : False := by subst h; cases hx

theorem nodup_concat {α : Type} {l : List α} {x : α} (h : l.Nodup) (hx : x ∉ l) : (l ++ [x]).Nodup :=
  List.nodup_append.mpr ⟨h, by simp, fun _ ha _ hb e => hx (List.mem_singleton.mp hb ▸ e ▸ ha)⟩

theorem split_of_nodup_map {α β : Type} (f : α → β) {l : List α} {m : α} (hm : m ∈ l) (hnd : (l.map f).Nodup) :
    ∃ l1 l2, l = l1 ++ m :: l2 ∧ (∀ e ∈ l1, f e ≠ f m) ∧ (∀ e ∈ l2, f e ≠ f m) := by
  obtain ⟨l1, l2, rfl⟩ := List.append_of_mem hm
  simp only [List.map_append, List.map_cons, List.nodup_append, List.nodup_cons] at hnd
  exact ⟨l1, l2, rfl, fun e he heq => hnd.2.2 (f e) (List.mem_map.mpr ⟨e, he, rfl⟩) (f m) (by simp) heq,
    fun e he heq => hnd.2.1.1 (heq ▸ List.mem_map.mpr ⟨e, he, rfl⟩)⟩

theorem mem_erase_nodup {x y : Nat} {xs : List Nat} (h : xs.Nodup) : y ∈ xs.erase x ↔ y ≠ x ∧ y ∈ xs :=
  List.Nodup.mem_erase_iff h

theorem length_erase_mem {x : Nat} {xs : List Nat} (h : x ∈ xs) : (xs.erase x).length + 1 = xs.length := by
  rw [List.length_erase_of_mem h]
  exact Nat.sub_add_cancel (List.length_pos_of_mem h)

theorem nodup_lt_full (n : Nat) : ∀ (l : List Nat), l.Nodup → (∀ x ∈ l, x < n) → n ≤ l.length → ∀ i, i < n → i ∈ l := by
  intro l hnd h hlen i hi
  by_cases hil : i ∈ l
  · exact hil
  · -- a missing number would leave `l` only `n - 1` places
    have := hnd.length_le_of_subset (l₂ := (List.range n).erase i) fun x hx =>
      (List.mem_erase_of_ne fun (e : x = i) => hil (e ▸ hx)).mpr (List.mem_range.mpr (h x hx))
    rw [List.length_erase_of_mem (List.mem_range.mpr hi), List.length_range] at this
    omega

theorem length_ge_of_full (n : Nat) : ∀ (l : List Nat), (∀ i, i < n → i ∈ l) → n ≤ l.length := by
  intro l h
  simpa using (List.nodup_range (n := n)).length_le_of_subset fun i hi => h i (List.mem_range.mp hi)

theorem sum_indicator {α : Type} (l : List α) (g : α → Nat) (b : α → Bool) (h : ∀ p ∈ l, g p = if b p then 1 else 0) :
    (l.map g).sum = (l.filter b).length := by
  induction l with
  | nil => rfl
  | cons x xs ih =>
    simp only [List.map_cons, List.sum_cons, List.filter_cons]
    rw [ih (fun p hp => h p (by simp [hp])), h x (by simp)]
    by_cases hb : b x = true
    · simp only [hb, if_true, List.length_cons]
      exact Nat.add_comm 1 _
    · simp only [hb, Bool.false_eq_true, if_false, Nat.zero_add]

theorem sum_single {α : Type} (l : List α) (g : α → Nat) (b : α → Bool) (T : Nat)
    (hg : ∀ p ∈ l, g p = if b p then T else 0) (hnd : l.Nodup) (huniq : ∀ p ∈ l, ∀ q ∈ l, b p = true → b q = true → p = q)
    (hex : ∃ p ∈ l, b p = true) : (l.map g).sum = T := by
  induction l with
  | nil => obtain ⟨p, hp, _⟩ := hex; cases hp
  | cons x xs ih =>
    simp only [List.map_cons, List.sum_cons]
    rw [hg x (by simp)]
    simp only [List.nodup_cons] at hnd
    by_cases hb : b x = true
    · -- the others carry nothing
      have hz : (xs.map g).sum = 0 := List.sum_eq_zero_iff_forall_eq_nat.mpr fun y hy => by
        obtain ⟨p, hp, rfl⟩ := List.mem_map.mp hy
        rw [hg p (by simp [hp]), if_neg]
        exact fun hbp => hnd.1 (huniq x (by simp) p (by simp [hp]) hb hbp ▸ hp)
      simp [hb, hz]
    · have hex' : ∃ p ∈ xs, b p = true := by
        obtain ⟨p, hp, hbp⟩ := hex
        rcases List.mem_cons.mp hp with rfl | hp
        · exact absurd hbp hb
        · exact ⟨p, hp, hbp⟩
      rw [ih (fun p hp => hg p (by simp [hp])) hnd.2 (fun p hp q hq => huniq p (by simp [hp]) q (by simp [hq])) hex']
      simp [hb]

theorem sum_map_add {α : Type} (l : List α) (g h : α → Nat) :
    (l.map (fun p => g p + h p)).sum = (l.map g).sum + (l.map h).sum := by
  induction l with
  | nil => rfl
  | cons x xs ih => simp only [List.map_cons, List.sum_cons, ih, Nat.add_add_add_comm]

theorem sum_ge_of_mem {α : Type} (l : List α) (g : α → Nat) {x : α} (hx : x ∈ l) : g x ≤ (l.map g).sum := by
  induction l with
  | nil => cases hx
  | cons y ys ih =>
    simp only [List.map_cons, List.sum_cons]
    rcases List.mem_cons.mp hx with rfl | hx
    · exact Nat.le_add_right _ _
    · exact Nat.le_trans (ih hx) (Nat.le_add_left _ _)

theorem sum_filter_ite (l : List Nat) (p : Nat → Bool) (g : Nat → Nat) :
    ((l.filter p).map g).sum = (l.map (fun i => if p i then g i else 0)).sum := by
  induction l with
  | nil => rfl
  | cons x xs ih =>
    simp only [List.filter_cons, List.map_cons, List.sum_cons]
    by_cases hp : p x = true <;> simp [hp, ih]

theorem sum_range_getD {α : Type} (bs : List α) (d : α) (G : α → Nat) :
    ((List.range bs.length).map (fun i => G ((bs[i]?).getD d))).sum = (bs.map G).sum := by
  induction bs with
  | nil => rfl
  | cons b bs ih =>
    rw [List.length_cons, List.range_succ_eq_map, List.map_cons, List.map_map, List.sum_cons, List.map_cons, List.sum_cons, ← ih]
    rfl

theorem sum_range_ite_zero {w : Nat} (hw : 0 < w) (T : Nat) : ((List.range w).map (fun i => if i = 0 then T else 0)).sum = T := by
  obtain ⟨n, rfl⟩ : ∃ n, w = n + 1 := ⟨w - 1, by omega⟩
  rw [List.range_succ_eq_map, List.map_cons, List.sum_cons, List.map_map]
  have : ((List.range n).map ((fun i => if i = 0 then T else 0) ∘ Nat.succ)).sum = 0 := by
    induction List.range n with
    | nil => rfl
    | cons x xs ih => simpa using ih
  simp [this]

theorem zipIdx_map_range {α β : Type} (w : Nat) (g : Nat → α) (mk : Nat → α → β) :
    ((List.range w).map g).zipIdx.map (fun p => mk p.2 p.1) = (List.range w).map (fun i => mk i (g i)) := by
  apply List.ext_getElem (by simp)
  intro i h1 h2
  simp

/-! ### the queue operations of the model -/

def markOne (id : Nat) (m : QEv) : QEv := if m.id == id && !m.unacked then { m with unacked := true } else m

theorem markEv_evq (c : Cfg) (id : Nat) : (markEv c id).evq = c.evq.map (markOne id) := rfl

theorem markOne_id (id : Nat) (m : QEv) : (markOne id m).id = m.id := by
  unfold markOne; split <;> rfl

theorem markOne_kind (id : Nat) (m : QEv) : (markOne id m).kind = m.kind := by
  unfold markOne; split <;> rfl

theorem markOne_ne {id : Nat} {m : QEv} (h : m.id ≠ id) : markOne id m = m := by
  unfold markOne
  simp [h]

theorem markOne_ready {m : QEv} (h : m.unacked = false) : markOne m.id m = { m with unacked := true } := by
  unfold markOne; simp [h]

theorem map_markOne_ne {id : Nat} {l : List QEv} (h : ∀ e ∈ l, e.id ≠ id) : l.map (markOne id) = l :=
  (List.map_congr_left fun e he => markOne_ne (h e he)).trans l.map_id'

theorem findEv_some {c : Cfg} {id : Nat} {u : Bool} {m : QEv} (h : findEv c id u = some m) :
    m ∈ c.evq ∧ m.id = id ∧ m.unacked = u :=
  ⟨List.mem_of_find?_eq_some h, by simpa using List.find?_some h⟩

theorem findEv_congr {c d : Cfg} (h : d.evq = c.evq) (id : Nat) (u : Bool) : findEv d id u = findEv c id u := by
  unfold findEv
  rw [h]

theorem split_of_mem {l : List QEv} {m : QEv} (hm : m ∈ l) (hnd : (l.map (·.id)).Nodup) :
    ∃ l1 l2, l = l1 ++ m :: l2 ∧ (∀ e ∈ l1, e.id ≠ m.id) ∧ (∀ e ∈ l2, e.id ≠ m.id) :=
  split_of_nodup_map (·.id) hm hnd

def ackP (id : Nat) (m : QEv) : Bool := !(m.id == id && m.unacked)

theorem filter_ackP_ne {id : Nat} {l : List QEv} (h : ∀ e ∈ l, e.id ≠ id) : l.filter (ackP id) = l := by
  rw [List.filter_eq_self]
  intro e he
  have := h e he
  simp [ackP, this]

theorem ack_split {l1 l2 l3 : List QEv} {m : QEv} (h1 : ∀ e ∈ l1, e.id ≠ m.id) (h2 : ∀ e ∈ l2, e.id ≠ m.id)
    (h3 : ∀ e ∈ l3, e.id ≠ m.id) (hm : m.unacked = true) :
    (l1 ++ m :: l2 ++ l3).filter (ackP m.id) = l1 ++ l2 ++ l3 := by
  simp only [List.filter_append, List.filter_cons]
  rw [filter_ackP_ne h1, filter_ackP_ne h2, filter_ackP_ne h3]
  simp [ackP, hm]

theorem act_ackEv_evq (c : Cfg) (id : Nat) : (c.act (.ackEv id)).evq = c.evq.filter (ackP id) := rfl

theorem markRpL_ne {corr : Nat} {l : List QRp} (h : ∀ e ∈ l, e.corr ≠ corr) : markRpL l corr = l := by
  fun_induction markRpL l corr with
  | case1 => rfl
  | case2 r rs corr hr => simp [h r (by simp)] at hr
  | case3 r rs corr _ ih => rw [ih fun e he => h e (by simp [he])]

theorem markRpL_split {l1 l2 : List QRp} {r : QRp} (h1 : ∀ e ∈ l1, e.corr ≠ r.corr) (hr : r.unacked = false) :
    markRpL (l1 ++ r :: l2) r.corr = l1 ++ { r with unacked := true } :: l2 := by
  induction l1 with
  | nil => simp [markRpL, hr]
  | cons x xs ih =>
    have hx := h1 x (by simp)
    have : (x.corr == r.corr) = false := by simpa using hx
    simp only [List.cons_append, markRpL, this, Bool.false_and]
    rw [ih (fun e he => h1 e (by simp [he]))]
    simp

/-- the reply the broker delivers for `corr`, and the queue with it marked -/
theorem markRpL_of_any {l : List QRp} (hnd : (l.map (·.corr)).Nodup) {corr : Nat}
    (hany : l.any (fun r => r.corr == corr && !r.unacked) = true) :
    ∃ k1 k2 r, l = k1 ++ r :: k2 ∧ (∀ e ∈ k1, e.corr ≠ r.corr) ∧ (∀ e ∈ k2, e.corr ≠ r.corr) ∧ r.corr = corr ∧
      r.unacked = false ∧ markRpL l corr = k1 ++ { r with unacked := true } :: k2 := by
  obtain ⟨r, hr, hrp⟩ := List.any_eq_true.mp hany
  simp only [Bool.and_eq_true, beq_iff_eq, Bool.not_eq_true'] at hrp
  obtain ⟨rfl, hru⟩ := hrp
  obtain ⟨k1, k2, hk, g1, g2⟩ := split_of_nodup_map (·.corr) hr hnd
  exact ⟨k1, k2, r, hk, g1, g2, rfl, hru, hk ▸ markRpL_split g1 hru⟩

theorem removeFirst_eq_eraseP (p : QRp → Bool) (l : List QRp) : removeFirst p l = l.eraseP p := by
  fun_induction removeFirst p l with
  | case1 => rfl
  | case2 x xs hx => rw [List.eraseP_cons_of_pos hx]
  | case3 x xs hx ih => rw [List.eraseP_cons_of_neg hx, ih]

theorem removeFirst_ne {p : QRp → Bool} {l : List QRp} (h : ∀ e ∈ l, p e = false) : removeFirst p l = l := by
  rw [removeFirst_eq_eraseP, List.eraseP_eq_self_iff]
  simpa using h

theorem removeFirst_sublist (p : QRp → Bool) (l : List QRp) : (removeFirst p l).Sublist l :=
  removeFirst_eq_eraseP p l ▸ List.eraseP_sublist

theorem removeFirst_eq_filter {p : QRp → Bool} {l : List QRp}
    (h : ∀ a ∈ l, ∀ b ∈ l, p a = true → p b = true → a.corr = b.corr) (hnd : (l.map (·.corr)).Nodup) :
    removeFirst p l = l.filter (fun r => !p r) := by
  fun_induction removeFirst p l with
  | case1 => rfl
  | case2 x xs hx =>
    -- no other satisfies `p`: it would have the correlation id of `x`
    have hno : ∀ a ∈ xs, (!p a) = true := fun a ha => by
      rw [Bool.not_eq_true', Bool.eq_false_iff]
      exact fun hpa => (List.nodup_cons.mp hnd).1 (List.mem_map.mpr ⟨a, ha, (h x (by simp) a (by simp [ha]) hx hpa).symm⟩)
    simp only [List.filter_cons, hx, Bool.not_true, Bool.false_eq_true, if_false, List.filter_eq_self.mpr hno]
  | case3 x xs hx ih =>
    simp only [List.filter_cons, hx, Bool.not_false, if_true]
    rw [ih (fun a ha b hb => h a (by simp [ha]) b (by simp [hb])) (List.nodup_cons.mp hnd).2]

theorem ackRp_rpq {c : Cfg} (hnd : (c.rpq.map (·.corr)).Nodup) (corr : Nat) :
    (c.act (.ackRp corr)).rpq = c.rpq.filter (fun r => !(r.corr == corr && r.unacked)) :=
  removeFirst_eq_filter (fun a _ b _ ha hb => by simp at ha hb; rw [ha.1, hb.1]) hnd

theorem mem_removeFirst {p : QRp → Bool} {l : List QRp} {x : QRp} (h : x ∈ removeFirst p l) : x ∈ l :=
  (removeFirst_sublist p l).subset h

theorem mem_removeFirst_of_false {p : QRp → Bool} {l : List QRp} {x : QRp} (hx : x ∈ l) (hp : p x = false) :
    x ∈ removeFirst p l :=
  removeFirst_eq_eraseP p l ▸ (List.mem_eraseP_of_neg (Bool.eq_false_iff.mp hp)).mpr hx

theorem mem_insertNat {x y : Nat} {xs : List Nat} : y ∈ insertNat x xs ↔ y = x ∨ y ∈ xs := by
  unfold insertNat
  split
  · rename_i h
    have : x ∈ xs := by simpa using h
    exact ⟨.inr, fun hy => hy.elim (· ▸ this) id⟩
  · simp [or_comm]

theorem nodup_insertNat {x : Nat} {xs : List Nat} (h : xs.Nodup) : (insertNat x xs).Nodup := by
  unfold insertNat
  split
  · exact h
  · rename_i hc
    exact nodup_concat h (by simpa using hc)

theorem length_insertNat_new {x : Nat} {xs : List Nat} (h : x ∉ xs) : (insertNat x xs).length = xs.length + 1 := by
  unfold insertNat
  simp [h]

theorem mem_insertHeld {idx ev : Nat} {xs : List (Nat × Nat)} (hnew : ∀ q ∈ xs, q.2 ≠ ev) (q : Nat × Nat) :
    q ∈ insertHeld idx ev xs ↔ q ∈ xs ∨ q = (idx, ev) := by
  unfold insertHeld
  have : xs.any (fun p => p.2 == ev) = false := by
    rw [List.any_eq_false]
    intro p hp
    simpa using hnew p hp
  simp only [this, Bool.false_eq_true, if_false, List.mem_append, List.mem_filter, List.mem_singleton, decide_eq_true_eq]
  by_cases hq : q.1 ≤ idx
  · simp [hq, Nat.not_lt.mpr hq]
  · simp [hq, Nat.lt_of_not_le hq, or_comm]

theorem foldl_ackEv (ids : List Nat) (c : Cfg) :
    (ids.map Act.ackEv).foldl Cfg.act c = { c with evq := c.evq.filter (fun e => !(ids.contains e.id && e.unacked)) } := by
  induction ids generalizing c with
  | nil => simp [List.filter_eq_self.mpr]
  | cons x xs ih =>
    simp only [List.map_cons, List.foldl_cons]
    rw [ih]
    simp only [Cfg.act, List.filter_filter, List.contains_cons, Bool.and_or_distrib_right, Bool.not_or]
    simp only [Bool.and_comm]

theorem foldl_ackRp (xs : List Nat) (c : Cfg) (hnd : (c.rpq.map (·.corr)).Nodup) :
    (xs.map Act.ackRp).foldl Cfg.act c = { c with rpq := c.rpq.filter (fun r => !(xs.contains r.corr && r.unacked)) } := by
  induction xs generalizing c with
  | nil => simp [List.filter_eq_self.mpr]
  | cons x xs ih =>
    simp only [List.map_cons, List.foldl_cons]
    have h1 := ackRp_rpq hnd x
    have hnd' : ((c.act (.ackRp x)).rpq.map (·.corr)).Nodup := by
      rw [h1]; exact List.Nodup.sublist (List.filter_sublist.map _) hnd
    rw [ih _ hnd', h1]
    simp only [Cfg.act, List.filter_filter, List.contains_cons, Bool.and_or_distrib_right, Bool.not_or]
    simp only [Bool.and_comm]

theorem foldl_pubEv (ks : List EvKind) (c : Cfg) :
    (ks.map Act.pubEv).foldl Cfg.act c =
      { c with evq := c.evq ++ ks.zipIdx.map (fun p => ({ id := c.nextId + p.2, kind := p.1 } : QEv)),
               nextId := c.nextId + ks.length, batches := c.batches ++ ks.flatMap batchKey } := by
  induction ks generalizing c with
  | nil => simp
  | cons k ks ih =>
    simp only [List.map_cons, List.foldl_cons]
    rw [ih]
    -- the index sums are brought to the form `c.nextId + (i + 1)` of `zipIdx_succ`
    simp only [Cfg.act, List.zipIdx_cons, List.map_cons, List.length_cons, List.flatMap_cons, List.append_assoc,
      List.cons_append, List.nil_append, Nat.add_zero, List.zipIdx_succ, List.map_map, Function.comp_def, Nat.add_assoc,
      Nat.add_comm 1]

/-! ### what every step keeps, every run keeps -/

theorem run_keeps (q : Quirks) {I : Cfg → Prop} : ∀ (sched : Sched) (c c' : Cfg),
    (∀ x ∈ sched, ∀ c c', I c → step q c x.1 x.2 = some c' → I c') → I c → run q c sched = some c' → I c' := by
  intro sched c c' hstep h hr
  fun_induction run q c sched with
  | case1 c => exact Option.some.inj hr ▸ h
  | case2 c op cut rest c1 h1 ih =>
    exact ih (fun y hy => hstep y (List.mem_cons_of_mem _ hy)) (hstep (op, cut) List.mem_cons_self c c1 h h1) hr
  | case3 => cases hr

theorem drain_keeps (q : Quirks) {I : Cfg → Prop} (hstep : ∀ c op c', I c → step q c op none = some c' → I c') :
    ∀ (fuel : Nat) (c : Cfg), I c → I (drain q fuel c) := by
  intro fuel c h
  fun_induction drain q fuel c with
  | case4 f c hd op hn c1 h1 ih => exact ih (hstep c op c1 h h1)
  | _ => exact h

end Asl.Crash
