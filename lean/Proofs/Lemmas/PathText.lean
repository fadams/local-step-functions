/- Reference paths as text: `parseSegs` reads back what `printSegs` writes, one segment at a time. -/
import AslModel.Path
import Proofs.Lemmas.Scan
namespace Asl

theorem nameChar_not_special (c : Char) (h : nameChar c = true) :
    c ≠ '.' ∧ c ≠ '[' ∧ c ≠ ']' ∧ c ≠ '\'' ∧ c ≠ '$' :=
  ⟨ne_of_class h (by decide), ne_of_class h (by decide), ne_of_class h (by decide), ne_of_class h (by decide),
    ne_of_class h (by decide)⟩

theorem digit_not_close (c : Char) (h : c.isDigit = true) : c ≠ ']' :=
  ne_of_class h (by decide)

/-- what may follow a printed segment: end of text or the start of the next segment -/
def segBoundary : Str → Prop
  | [] => True
  | c :: _ => nameChar c = false ∧ c.isDigit = false

theorem printSegs_boundary (ss : List Seg) : segBoundary (printSegs ss) := by
  cases ss with
  | nil => trivial
  | cons s ss => cases s <;> exact ⟨by decide, by decide⟩

theorem parseSegs_seg (s : Seg) (hs : s.ok = true) (rest : Str) (hb : segBoundary rest)
    (fuel : Nat) :
    parseSegs (fuel + 1) (s.print ++ rest) = (parseSegs fuel rest).map (s.name :: ·) := by
  cases s with
  | dot n =>
    simp only [Seg.ok, Bool.and_eq_true, Bool.not_eq_true', List.isEmpty_eq_false_iff] at hs
    have htn := takeName_append n rest hs.2 (by rintro c r rfl; exact hb.1)
    obtain ⟨c, cs, rfl⟩ := List.exists_cons_of_ne_nil hs.1
    rw [List.cons_append] at htn
    simp [Seg.print, Seg.name, parseSegs, htn]
  | brq n =>
    simp only [Seg.ok, Bool.and_eq_true, Bool.not_eq_true', List.isEmpty_eq_false_iff] at hs
    have htn := takeName_append n ('\'' :: ']' :: rest) hs.2 (by rintro c r ⟨⟩; decide)
    obtain ⟨c, cs, rfl⟩ := List.exists_cons_of_ne_nil hs.1
    rw [List.cons_append] at htn
    simp [Seg.print, Seg.name, parseSegs, htn]
  | idx n =>
    simp only [Seg.ok, isDigits, Bool.and_eq_true, Bool.not_eq_true',
      List.isEmpty_eq_false_iff] at hs
    have htn := takeDigits_append n (']' :: rest) hs.2 (by rintro c r ⟨⟩; decide)
    obtain ⟨c, cs, rfl⟩ := List.exists_cons_of_ne_nil hs.1
    rw [List.cons_append] at htn
    have hcq : c ≠ '\'' :=
      ne_of_class (p := Char.isDigit) (by simp [allDigits] at hs; exact hs.1) (by decide)
    simp [Seg.print, Seg.name, parseSegs, htn, hcq]

theorem parseSegs_print (ss : List Seg) (h : ∀ s ∈ ss, s.ok = true) (fuel : Nat)
    (hf : (printSegs ss).length ≤ fuel) :
    parseSegs fuel (printSegs ss) = some (ss.map Seg.name) := by
  induction ss generalizing fuel with
  | nil => cases fuel <;> simp [printSegs, parseSegs]
  | cons s ss ih =>
    have hp : 1 ≤ s.print.length := by cases s <;> simp [Seg.print]
    simp only [printSegs, List.length_append] at hf
    obtain ⟨f, rfl⟩ : ∃ f, fuel = f + 1 := ⟨fuel - 1, by omega⟩
    rw [printSegs, parseSegs_seg s (h s (by simp)) _ (printSegs_boundary ss),
      ih (fun t ht => h t (by simp [ht])) f (by omega)]
    rfl

theorem parseRef_dollar : parseRef ['$'] = some [] := rfl

theorem parseRef_dollar_dollar (rest : Str) : parseRef ('$' :: '$' :: rest) = none := by
  cases rest <;> simp [parseRef, parseSegs]

theorem ne_dollar_of_parseRef {text : Str} {segs : List Str} (hp : parseRef text = some segs)
    (hs : segs ≠ []) : text ≠ ['$'] := by
  rintro rfl
  exact hs (Option.some.inj (hp.symm.trans parseRef_dollar))

theorem applyResultPath_of_parseRef (d v : Json) (text : Str) :
    applyResultPath d v (some text) =
      match parseRef text with
      | none => .error .resultPath
      | some segs => put (if d = .null then .obj [] else d) segs v := by
  by_cases ht : text = ['$']
  · subst ht
    simp [applyResultPath, parseRef_dollar, put]
  · simp only [applyResultPath, ht, if_false]
    split
    · rw [parseRef_dollar_dollar]
    · rfl

end Asl
