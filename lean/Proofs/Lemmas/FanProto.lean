/-
Lemmas about the fan-out protocol model (`AslModel/FanProto.lean`).  Every operation leaves an attempt its identity and
position and only sets its flags (`Keeps`); every step has one of seven shapes (`Shape`), and the outcomes it puts out come
from one walk of `bubble`, which `Says` reads.  The invariant `Inv` of the repaired protocol and the theorems about runs are
read off these; `Spares` is what an input for a terminated attempt leaves of the live ones.
-/
import AslModel.FanProto

theorem List.foldl_fixed {α β : Type} {f : β → α → β} {b : β} {l : List α} (h : ∀ a ∈ l, f b a = b) : l.foldl f b = b :=
  List.foldlRecOn (motive := (· = b)) l f rfl (fun _ hg a ha => hg ▸ h a ha)

namespace Asl.FanProto

theorem cancel_not_cancellable (s : Slot) : s.cancel.cancellable = false := by
  cases s <;> rfl

theorem cancellable_unresolved (s : Slot) (h : s.cancellable = true) : s.unresolved = true := by
  cases s <;> first | rfl | cases h

/-- no seen attempt has a cancellable (task / wait outstanding) slot -/
def NoTask (atts : List Attempt) : Prop :=
  ∀ x ∈ atts, x.seen = true → ∀ sl ∈ x.slots, sl.cancellable = false

def SomePending (atts : List Attempt) : Prop :=
  ∃ x ∈ atts, x.seen = true ∧ x.waits = true

def UnseenOK (x : Attempt) : Prop := x.seen = false → ∀ sl ∈ x.slots, sl = Slot.pending ∨ sl = Slot.unlaunched
def SlotsOK (x : Attempt) : Prop := x.seen = true → ∀ sl ∈ x.slots, sl.cancellable = false
def UnseenPending (atts : List Attempt) : Prop := ∀ x ∈ atts, UnseenOK x
def TermSeenOK (x : Attempt) : Prop := x.terminated = true → x.seen = true
def TermSeen (atts : List Attempt) : Prop := ∀ x ∈ atts, TermSeenOK x

theorem noTask_iff (atts : List Attempt) : NoTask atts ↔ ∀ x ∈ atts, SlotsOK x := Iff.rfl

/-- (`unseen`: nothing is written to an attempt whose results entry does not exist afterwards) -/
structure Keeps (x x' : Attempt) : Prop where
  ident : x'.id = x.id
  parent : x'.parent = x.parent
  term : x.terminated = true → x'.terminated = true
  joined : x.joined = true → x'.joined = true
  unseen : x'.seen = false → x' = x

theorem Keeps.refl (x : Attempt) : Keeps x x := ⟨rfl, rfl, fun h => h, fun h => h, fun _ => rfl⟩

theorem Keeps.trans {x y z : Attempt} (h1 : Keeps x y) (h2 : Keeps y z) : Keeps x z where
  ident := h2.ident.trans h1.ident
  parent := h2.parent.trans h1.parent
  term h := h2.term (h1.term h)
  joined h := h2.joined (h1.joined h)
  unseen h := by
    have := h2.unseen h
    subst this
    exact h1.unseen h

theorem Keeps.edit {x x' : Attempt} (hs : x'.seen = true) (hid : x'.id = x.id := by rfl)
    (hpar : x'.parent = x.parent := by rfl) (ht : x.terminated = true → x'.terminated = true := by exact fun h => h)
    (hj : x.joined = true → x'.joined = true := by exact fun h => h) : Keeps x x' :=
  ⟨hid, hpar, ht, hj, fun h => by rw [hs] at h; cases h⟩

theorem Keeps.ite {x x' : Attempt} {c : Prop} [Decidable c] (h : c → Keeps x x') : Keeps x (if c then x' else x) := by
  split
  · exact h ‹_›
  · exact Keeps.refl x

theorem Keeps.unseenOK {x x' : Attempt} (h : Keeps x x') (hx : UnseenOK x) : UnseenOK x' := by
  intro hs
  have := h.unseen hs
  subst this
  exact hx hs

theorem Keeps.termSeenOK {x x' : Attempt} (h : Keeps x x') (hx : TermSeenOK x) : TermSeenOK x' := by
  intro ht
  cases hs : x'.seen
  · have := h.unseen hs
    subst this
    rw [hx ht] at hs
    cases hs
  · rfl

inductive All2 (R : Attempt → Attempt → Prop) : List Attempt → List Attempt → Prop where
  | nil : All2 R [] []
  | cons {a b : Attempt} {as bs : List Attempt} (h : R a b) (t : All2 R as bs) : All2 R (a :: as) (b :: bs)

theorem all2_cons {R : Attempt → Attempt → Prop} {a b : Attempt} {as bs : List Attempt} :
    All2 R (a :: as) (b :: bs) ↔ R a b ∧ All2 R as bs :=
  ⟨fun h => by cases h; exact ⟨‹_›, ‹_›⟩, fun h => .cons h.1 h.2⟩

theorem All2.refl {R : Attempt → Attempt → Prop} (hr : ∀ x, R x x) : ∀ l, All2 R l l
  | [] => .nil
  | x :: l => .cons (hr x) (All2.refl hr l)

theorem All2.trans {R : Attempt → Attempt → Prop} (ht : ∀ x y z, R x y → R y z → R x z) :
    ∀ {l1 l2 l3}, All2 R l1 l2 → All2 R l2 l3 → All2 R l1 l3 := by
  intro l1 l2 l3 h1
  induction h1 generalizing l3 with
  | nil => exact fun h2 => h2
  | cons h t ih =>
    intro h2
    cases h2 with
    | cons h' t' => exact .cons (ht _ _ _ h h') (ih t')

theorem All2.map {R : Attempt → Attempt → Prop} (f : Attempt → Attempt) (hf : ∀ x, R x (f x)) :
    ∀ l, All2 R l (l.map f)
  | [] => .nil
  | x :: l => .cons (hf x) (All2.map f hf l)

theorem All2.mem_right {R : Attempt → Attempt → Prop} : ∀ {l l'}, All2 R l l' → ∀ x' ∈ l', ∃ x ∈ l, R x x' := by
  intro l l' h
  induction h with
  | nil => exact fun _ h => nomatch h
  | cons h t ih =>
    intro x' hm
    rcases List.mem_cons.mp hm with rfl | hm
    · exact ⟨_, List.mem_cons_self, h⟩
    · obtain ⟨x, hx, hr⟩ := ih x' hm
      exact ⟨x, List.mem_cons_of_mem _ hx, hr⟩

theorem All2.mem_left {R : Attempt → Attempt → Prop} : ∀ {l l'}, All2 R l l' → ∀ x ∈ l, ∃ x' ∈ l', R x x' := by
  intro l l' h
  induction h with
  | nil => exact fun _ h => nomatch h
  | cons h t ih =>
    intro x hm
    rcases List.mem_cons.mp hm with rfl | hm
    · exact ⟨_, List.mem_cons_self, h⟩
    · obtain ⟨x', hx, hr⟩ := ih x hm
      exact ⟨x', List.mem_cons_of_mem _ hx, hr⟩

theorem All2.forall {R : Attempt → Attempt → Prop} {P : Attempt → Prop} {l l' : List Attempt} (h : All2 R l l')
    (hp : ∀ x x', R x x' → P x → P x') (hl : ∀ x ∈ l, P x) : ∀ x' ∈ l', P x' := by
  intro x' hx'
  obtain ⟨x, hx, hr⟩ := h.mem_right x' hx'
  exact hp x x' hr (hl x hx)

abbrev KeepsAll := All2 Keeps

theorem KeepsAll.refl (l : List Attempt) : KeepsAll l l := All2.refl Keeps.refl l

theorem KeepsAll.trans {l1 l2 l3 : List Attempt} (h1 : KeepsAll l1 l2) (h2 : KeepsAll l2 l3) : KeepsAll l1 l3 :=
  All2.trans (R := Keeps) (fun _ _ _ a b => a.trans b) h1 h2

theorem All2.ids {l l' : List Attempt} (h : KeepsAll l l') : l'.map (·.id) = l.map (·.id) := by
  induction h with
  | nil => rfl
  | cons h t ih => simp [h.ident, ih]

theorem upd_rel {R : Attempt → Attempt → Prop} (refl : ∀ x, R x x) (atts : List Attempt) (a : Nat) (f : Attempt → Attempt)
    (hf : ∀ x, R x (f x)) : All2 R atts (upd atts a f) :=
  All2.map _ (fun x => by split <;> first | exact hf x | exact refl x) atts

theorem upd_keeps {atts : List Attempt} {a : Nat} {f : Attempt → Attempt} (hf : ∀ x, Keeps x (f x)) :
    KeepsAll atts (upd atts a f) := upd_rel Keeps.refl atts a f hf

theorem setSlot_keeps (i : Nat) (f : Slot → Slot) (x : Attempt) : Keeps x (setSlot i f x) := .ite fun h => .edit h

theorem setRange_keeps (lo hi : Nat) (f : Slot → Slot) (x : Attempt) : Keeps x (setRange lo hi f x) := .ite fun h => .edit h

theorem markOwn_keeps (i : Nat) (x : Attempt) : Keeps x (markOwn i x) := .edit rfl (ht := fun _ => rfl)

theorem markEnclosing_keeps (i : Nat) (x : Attempt) : Keeps x (markEnclosing i x) :=
  .ite fun h => .edit h (ht := fun _ => rfl)

/-- `f` changes nothing that `find` and `deadChain` look at -/
def KeepsChain (f : Attempt → Attempt) : Prop :=
  ∀ x, (f x).id = x.id ∧ (f x).terminated = x.terminated ∧ (f x).parent = x.parent

theorem KeepsChain.upd {f : Attempt → Attempt} (hf : KeepsChain f) (a : Nat) :
    KeepsChain (fun x => if x.id == a then f x else x) := by
  intro x
  dsimp only
  split
  · exact hf x
  · exact ⟨rfl, rfl, rfl⟩

theorem setSlot_keepsChain (i : Nat) (f : Slot → Slot) : KeepsChain (setSlot i f) := by
  intro x
  unfold setSlot
  split <;> exact ⟨rfl, rfl, rfl⟩

/-- (reducible: `simp` evaluates it at a constructor, which is how `bub_says` discharges `says_other`) -/
abbrev Out.outcome : Out → Bool
  | .succeed _ _ | .failAttempt _ _ | .aborted _ => true
  | _ => false

/-- the model's `quiet` without `.aborted` -/
def Out.tidy (o : Out) : Bool := o.quiet && !o.outcome

theorem tidy_quiet (o : Out) (h : o.tidy = true) : o.quiet = true := (Bool.and_eq_true_iff.mp h).1

theorem tidy_not_outcome (o : Out) (h : o.tidy = true) : o.outcome = false := by
  simpa using (Bool.and_eq_true_iff.mp h).2

theorem quiet_not_end (o : Out) (h : o.quiet = true) : isEnd o = false := by
  cases o <;> first | rfl | cases h

theorem quiet_filter_nil (os : List Out) (h : ∀ o ∈ os, o.quiet = true) : os.filter isEnd = [] := by
  rw [List.filter_eq_nil_iff]
  intro o ho
  simp [quiet_not_end o (h o ho)]

theorem tidy_filter_nil (os : List Out) (h : ∀ o ∈ os, o.tidy = true) : os.filter isEnd = [] :=
  quiet_filter_nil os (fun o ho => tidy_quiet o (h o ho))

def cpHasTerm (s : Proto) : Bool := s.atts.any fun x => x.seen && x.terminated

def cpVisits (q : Quirks) (s : Proto) (x : Attempt) : Bool := visited (cpDead q s.atts) (cpHasTerm s) s.ended.isSome x

def cpEdit (q : Quirks) (s : Proto) (x : Attempt) : Attempt :=
  if cpVisits q s x then { x with slots := x.slots.map Slot.cancel } else x

def cpAtts (q : Quirks) (s : Proto) : List Attempt := s.atts.map (cpEdit q s)

def cpPending (q : Quirks) (s : Proto) : Bool := (cpAtts q s).any (fun x => cpVisits q s x && x.waits)

theorem cp_state (q : Quirks) (s : Proto) :
    (checkPending q s).1 = if s.ended.isSome && !cpPending q s then { s with atts := [], hasMeta := false }
                         else { s with atts := cpAtts q s } :=
  apply_ite Prod.fst _ _ _

theorem cancelsOf_outs (x : Attempt) : ∀ o ∈ cancelsOf x, ∃ i, o = .cancel x.id i := by
  intro o ho
  obtain ⟨i, _, hi⟩ := List.mem_filterMap.mp ho
  split at hi
  · split at hi
    · cases hi; exact ⟨_, rfl⟩
    · cases hi
  · cases hi

theorem cp_outs (q : Quirks) (s : Proto) : ∀ o ∈ (checkPending q s).2, (∃ a i, o = .cancel a i) ∨ o = .discard := by
  have hc : ∀ (l : List Attempt), ∀ o ∈ l.flatMap cancelsOf, (∃ a i, o = Out.cancel a i) ∨ o = .discard := by
    intro l o ho
    obtain ⟨x, _, hx⟩ := List.mem_flatMap.mp ho
    exact Or.inl ⟨x.id, cancelsOf_outs x o hx⟩
  fun_cases checkPending q s
  · exact List.forall_mem_append.mpr ⟨hc _, List.forall_mem_singleton.mpr (Or.inr rfl)⟩
  · exact hc _

theorem cp_tidy (q : Quirks) (s : Proto) : ∀ o ∈ (checkPending q s).2, o.tidy = true := by
  intro o ho
  rcases cp_outs q s o ho with ⟨a, i, rfl⟩ | rfl <;> rfl

theorem cp_quiet (q : Quirks) (s : Proto) : ∀ o ∈ (checkPending q s).2, o.quiet = true :=
  fun o ho => tidy_quiet o (cp_tidy q s o ho)

theorem cp_noEnd (q : Quirks) (s : Proto) : ∀ o ∈ (checkPending q s).2, isEnd o = false :=
  fun o ho => quiet_not_end o (cp_quiet q s o ho)

theorem cp_ended (q : Quirks) (s : Proto) : (checkPending q s).1.ended = s.ended := by
  rw [cp_state]; split <;> rfl

theorem cp_fresh (q : Quirks) (s : Proto) : (checkPending q s).1.fresh = s.fresh := by
  rw [cp_state]; split <;> rfl

theorem cpVisits_iff {q : Quirks} {s : Proto} {x : Attempt} :
    cpVisits q s x = true ↔
      x.seen = true ∧ cpHasTerm s = true ∧ (cpDead q s.atts x = true ∨ s.ended.isSome = true) := by
  simp only [cpVisits, visited, Bool.and_eq_true, Bool.or_eq_true, and_assoc]

theorem cpVisits_seen {q : Quirks} {s : Proto} {x : Attempt} (h : cpVisits q s x = true) :
    x.seen = true ∧ cpHasTerm s = true :=
  ⟨(cpVisits_iff.mp h).1, (cpVisits_iff.mp h).2.1⟩

theorem cpDead_none (atts : List Attempt) (x : Attempt) : cpDead Quirks.none atts x = deadChain atts x.id := rfl

theorem cpEdit_keepsChain (q : Quirks) (s : Proto) : KeepsChain (cpEdit q s) := by
  intro x
  unfold cpEdit
  split <;> exact ⟨rfl, rfl, rfl⟩

theorem cpEdit_seen (q : Quirks) (s : Proto) (x : Attempt) : (cpEdit q s x).seen = x.seen := by
  unfold cpEdit
  split <;> rfl

theorem cpEdit_visits {q : Quirks} {s : Proto} {x : Attempt} (h : cpVisits q s x = true) :
    cpEdit q s x = { x with slots := x.slots.map Slot.cancel } := by
  simp [cpEdit, h]

theorem cpEdit_visited {q : Quirks} {s : Proto} {x : Attempt} (h : cpVisits q s x = true) :
    ∀ sl ∈ (cpEdit q s x).slots, sl.cancellable = false := by
  intro sl hsl
  rw [cpEdit_visits h] at hsl
  obtain ⟨sl0, _, rfl⟩ := List.mem_map.mp hsl
  exact cancel_not_cancellable sl0

theorem cpEdit_other {q : Quirks} {s : Proto} {x : Attempt} (h : cpVisits q s x = false) : cpEdit q s x = x := by
  simp [cpEdit, h]

theorem cp_atts (q : Quirks) (s : Proto) :
    ((checkPending q s).1.atts = [] ∧ (checkPending q s).1.hasMeta = false) ∨
    ((checkPending q s).1.atts = cpAtts q s ∧ (checkPending q s).1.hasMeta = s.hasMeta ∧
      (s.ended.isSome = true → cpPending q s = true)) := by
  rw [cp_state]
  split
  · exact Or.inl ⟨rfl, rfl⟩
  · rename_i h
    exact Or.inr ⟨rfl, rfl, fun he => by simpa [he] using h⟩

/-- what every step keeps of the state -/
structure Same (s s' : Proto) : Prop where
  fresh : s.fresh ≤ s'.fresh
  ended : s.ended.isSome = true → s'.ended.isSome = true
  atts : s'.atts = [] ∨ KeepsAll s.atts s'.atts

theorem Same.refl (s : Proto) : Same s s := ⟨Nat.le_refl _, fun h => h, Or.inr (KeepsAll.refl _)⟩

theorem keepsAll_nil_left {l : List Attempt} (h : KeepsAll [] l) : l = [] := by
  cases h; rfl

theorem Same.trans {s s1 s2 : Proto} (h1 : Same s s1) (h2 : Same s1 s2) : Same s s2 := by
  refine ⟨Nat.le_trans h1.fresh h2.fresh, fun h => h2.ended (h1.ended h), ?_⟩
  rcases h2.atts with h | h
  · exact Or.inl h
  · rcases h1.atts with h' | h'
    · rw [h'] at h
      exact Or.inl (keepsAll_nil_left h)
    · exact Or.inr (h'.trans h)

theorem same_of_atts (s : Proto) (atts : List Attempt) (m : Bool) (e : Option Bool) (h : KeepsAll s.atts atts)
    (he : s.ended.isSome = true → e.isSome = true) : Same s { s with atts := atts, hasMeta := m, ended := e } :=
  ⟨Nat.le_refl _, he, Or.inr h⟩

theorem cp_same (q : Quirks) (s : Proto) : Same s (checkPending q s).1 := by
  refine ⟨by rw [cp_fresh]; exact Nat.le_refl _, by rw [cp_ended]; exact fun h => h, ?_⟩
  rcases cp_atts q s with h | h
  · exact Or.inl h.1
  · rw [h.1]; exact Or.inr (All2.map _ (fun _ => .ite fun hv => .edit (cpVisits_seen hv).1) _)

theorem cp_noTask_pres (q : Quirks) (s : Proto) (h : NoTask s.atts) : NoTask (checkPending q s).1.atts := by
  rcases cp_atts q s with hh | hh
  · rw [hh.1]; intro x hx; cases hx
  · rw [hh.1]
    intro x' hx' hseen
    obtain ⟨x, hx, rfl⟩ := List.mem_map.mp hx'
    cases hv : cpVisits q s x with
    | true => exact cpEdit_visited hv
    | false =>
      rw [cpEdit_other hv] at hseen ⊢
      exact h x hx hseen

theorem cp_noTask (q : Quirks) (s : Proto) (he : s.ended.isSome = true) : NoTask (checkPending q s).1.atts := by
  rcases cp_atts q s with hh | ⟨hh, _, hp⟩
  · rw [hh.1]; intro x hx; cases hx
  · rw [hh]
    -- a result is pending in some entry looked into, so some seen attempt is terminated: every seen entry is looked into
    obtain ⟨y, _, hy⟩ := List.any_eq_true.mp (hp he)
    rw [Bool.and_eq_true] at hy
    have hterm := (cpVisits_seen hy.1).2
    intro x' hx' hseen
    obtain ⟨x, hx, rfl⟩ := List.mem_map.mp hx'
    rw [cpEdit_seen] at hseen
    exact cpEdit_visited (cpVisits_iff.mpr ⟨hseen, hterm, Or.inr he⟩)

theorem cp_pending (q : Quirks) (s : Proto) (he : s.ended.isSome = true) (hm : (checkPending q s).1.hasMeta = true) :
    SomePending (checkPending q s).1.atts := by
  rcases cp_atts q s with hh | ⟨hh, _, hp⟩
  · rw [hh.2] at hm; cases hm
  · rw [hh]
    obtain ⟨y, hy, hyv⟩ := List.any_eq_true.mp (hp he)
    rw [Bool.and_eq_true] at hyv
    exact ⟨y, hy, (cpVisits_seen hyv.1).1, hyv.2⟩

theorem find_mem {atts : List Attempt} {a : Nat} {x : Attempt} (h : find atts a = some x) : x ∈ atts ∧ x.id = a := by
  unfold find at h
  exact ⟨List.mem_of_find?_eq_some h, by simpa using List.find?_some h⟩

theorem markUp_keeps (e : Bool) (atts : List Attempt) (a i : Nat) (o : Bool) : KeepsAll atts (markUp e atts a i o) := by
  have both : ∀ i x (o : Bool), Keeps x (if o = true then markOwn i x else markEnclosing i x) := by
    intro i x o; split
    · exact markOwn_keeps i x
    · exact markEnclosing_keeps i x
  fun_induction markUp e atts a i o <;>
    simp +zetaDelta only [all2_cons, Keeps.refl, both, KeepsAll.refl, and_self, true_and] <;> assumption

theorem markOne_keeps (atts : List Attempt) (a i : Nat) : KeepsAll atts (markOne atts a i) := by
  have h1 : KeepsAll atts (upd atts a (markOwn i)) := upd_keeps (markOwn_keeps i)
  fun_cases markOne atts a i
  · exact KeepsAll.refl _
  · exact h1.trans (upd_keeps (markEnclosing_keeps _))
  · exact h1
  · exact h1

def seenAtts (s : Proto) (a : Nat) : List Attempt := upd s.atts a (fun y => { y with seen := true })

def marked (q : Quirks) (s : Proto) (a i : Nat) : List Attempt :=
  if q.oneLevel then markOne (seenAtts s a) a i else markUp s.ended.isSome (seenAtts s a) a i true

def lookupDead (q : Quirks) (s : Proto) (a : Nat) (x : Attempt) : Bool :=
  if q.oneLevel then x.terminated || parentTerminated s.atts x else s.ended.isSome || deadChain s.atts a

theorem lookup_cases (q : Quirks) (s : Proto) (a i : Nat) :
    (lookup q s a i = (.dropped, s, [.drop a i]) ∧ s.hasMeta = false ∧ s.ended.isSome = true) ∨
    (lookup q s a i = (.lost, s, [.unknown a])) ∨
    (∃ x, find s.atts a = some x ∧ lookupDead q s a x = true ∧
      lookup q s a i = (.dropped, (checkPending q { s with hasMeta := true, atts := marked q s a i }).1,
                         .drop a i :: (checkPending q { s with hasMeta := true, atts := marked q s a i }).2)) ∨
    (∃ x, find s.atts a = some x ∧ lookupDead q s a x = false ∧
      lookup q s a i = (.accept, { s with hasMeta := true, atts := seenAtts s a }, [])) := by
  fun_cases lookup q s a i with
  | case1 h => exact Or.inl ⟨rfl, by simpa using h⟩
  | case2 => exact Or.inr (Or.inl rfl)
  | case3 _ x hf _ _ hd => exact Or.inr (Or.inr (Or.inl ⟨x, hf, hd, rfl⟩))
  | case4 _ x hf _ _ hd => exact Or.inr (Or.inr (Or.inr ⟨x, hf, Bool.eq_false_iff.mpr hd, rfl⟩))

theorem seenAtts_keeps (s : Proto) (a : Nat) : KeepsAll s.atts (seenAtts s a) :=
  upd_keeps (fun _ => .edit rfl)

theorem marked_keeps (q : Quirks) (s : Proto) (a i : Nat) : KeepsAll s.atts (marked q s a i) := by
  unfold marked
  split
  · exact (seenAtts_keeps s a).trans (markOne_keeps _ _ _)
  · exact (seenAtts_keeps s a).trans (markUp_keeps _ _ _ _ _)

theorem markCaught_rel {R : Attempt → Attempt → Prop} (refl : ∀ x, R x x) (caught : ∀ i x, R x (setSlot i (fun _ => .caught) x))
    (atts : List Attempt) (par : Option (Nat × Nat)) : All2 R atts (markCaught atts par) := by
  unfold markCaught
  split
  · exact upd_rel refl _ _ _ (caught _)
  · exact All2.refl refl _

theorem bubble_atts {R : Attempt → Attempt → Prop} (refl : ∀ x, R x x)
    (write : ∀ x i v, R x { x with seen := true, slots := x.slots.modify i (fun _ => .done v) })
    (fail : ∀ x i v, R x { x with seen := true, slots := x.slots.modify i (fun _ => .done v), terminated := true })
    (join : ∀ x i v, R x { x with seen := true, slots := x.slots.modify i (fun _ => .done v), joined := true })
    (caught : ∀ i x, R x (setSlot i (fun _ => .caught) x))
    (q : Quirks) (e : Bool) (atts : List Attempt) (a i : Nat) (r : Res) : All2 R atts (bubble q e atts a i r).atts := by
  have rf := All2.refl refl
  have mc := markCaught_rel refl caught
  fun_induction bubble q e atts a i r <;>
    simp +zetaDelta only [Walk.under, all2_cons, refl, write, fail, join, mc, rf, and_self, true_and] <;>
    assumption

theorem bub_keeps {q : Quirks} {e : Bool} {atts : List Attempt} {a i : Nat} {r : Res} : KeepsAll atts (bubble q e atts a i r).atts :=
  bubble_atts Keeps.refl (fun _ _ _ => .edit rfl) (fun _ _ _ => .edit rfl (ht := fun _ => rfl))
    (fun _ _ _ => .edit rfl (hj := fun _ => rfl)) (fun i x => setSlot_keeps i _ x) q e atts a i r

theorem bub_noTask (q : Quirks) (e : Bool) (atts : List Attempt) (a i : Nat) (r : Res) (hu : UnseenPending atts)
    (h : NoTask atts) : NoTask (bubble q e atts a i r).atts := by
  -- (an unseen entry has pending / unlaunched slots only: a write that makes it seen leaves no cancellable slot)
  have hw : ∀ (x : Attempt) i c, Slot.cancellable c = false → UnseenOK x → SlotsOK x →
      ∀ sl ∈ x.slots.modify i (fun _ => c), sl.cancellable = false := by
    intro x i c hc hu hs sl hsl
    obtain ⟨j, hj⟩ := List.mem_iff_getElem?.mp hsl
    rw [List.getElem?_modify] at hj
    obtain ⟨z, hz, rfl⟩ := Option.map_eq_some_iff.mp hj
    split
    · exact hc
    · have hm := List.mem_of_getElem? hz
      cases hseen : x.seen
      · rcases hu hseen z hm with h | h <;> rw [h] <;> rfl
      · exact hs hseen z hm
  have hr := bubble_atts (R := fun x x' => UnseenOK x → SlotsOK x → SlotsOK x') (fun _ _ h => h)
    (fun x i v hu hs _ => hw x i _ rfl hu hs) (fun x i v hu hs _ => hw x i _ rfl hu hs) (fun x i v hu hs _ => hw x i _ rfl hu hs)
    (fun i x hu hs => by
      unfold setSlot
      split
      · exact fun _ => hw x i _ rfl hu hs
      · exact hs) q e atts a i r
  intro x' hx'
  obtain ⟨x, hx, hxx⟩ := hr.mem_right x' hx'
  exact hxx (hu x hx) (h x hx)

theorem isEnd_failed (c : Prop) [Decidable c] (a : Nat) (e : Err) : isEnd (if c then .aborted a else .failAttempt a e) = false := by
  split <;> rfl

theorem bub_ends (q : Quirks) (e : Bool) (atts : List Attempt) (a i : Nat) (r : Res) :
    (bubble q e atts a i r).outs.filter isEnd = ((bubble q e atts a i r).endNow.map Out.endExecution).toList := by
  -- `endNow` is set exactly in the arms that put out `endExecution`
  fun_induction bubble q e atts a i r <;>
    simp +zetaDelta [Walk.under, List.filter_cons, ↓isEnd_failed, isEnd, *]

theorem effective_tt (hs : List Handled) : effective .taskTerminated hs = .uncaught := by
  cases hs <;> rfl

theorem bub_tt {q : Quirks} {e : Bool} {atts : List Attempt} {a i : Nat} {hs : List Handled} :
    (∀ o ∈ (bubble q e atts a i (.fail .taskTerminated hs)).outs, o.quiet = true) ∧
      (bubble q e atts a i (.fail .taskTerminated hs)).endNow = none ∧
      (e = true → (bubble q e atts a i (.fail .taskTerminated hs)).cpr = true) := by
  -- Task.Terminated is never handled: every level is torn down (`.aborted`), and the walk stops at a terminated attempt
  -- (`cpr := ended`) or at the top (`cpr := true`), in no arm with an ending.  (`Out.quiet` by three of its equations, numbered as
  -- its arms stand in the model: unfolded, `simp` tries it, slowly, at the bound `o` of the induction hypothesis)
  generalize hr : Res.fail .taskTerminated hs = r
  fun_induction bubble q e atts a i r generalizing hs <;> cases hr <;>
    simp_all +zetaDelta [Walk.under, Out.quiet.eq_3, Out.quiet.eq_5, Out.quiet.eq_6, effective_tt]

theorem bub_fail_sweeps (q : Quirks) (e : Bool) (atts : List Attempt) (a i : Nat) (e0 : Err) (hs : List Handled)
    (he : e0 ≠ .taskTerminated) :
    ((bubble q e atts a i (.fail e0 hs)).cpr || (bubble q e atts a i (.fail e0 hs)).endNow.isSome) = true := by
  generalize hr : Res.fail e0 hs = r
  fun_induction bubble q e atts a i r generalizing hs <;> cases hr <;> simp +zetaDelta [Walk.under, *]

theorem bub_tt_handlers_irrelevant (q : Quirks) (e : Bool) (atts : List Attempt) (a i : Nat) (hs hs' : List Handled) :
    bubble q e atts a i (.fail .taskTerminated hs) = bubble q e atts a i (.fail .taskTerminated hs') := by
  induction atts generalizing a i hs hs' with
  | nil => rfl
  | cons x rest ih =>
    unfold bubble
    simp only [effective_tt, fun a i => ih a i hs hs', fun a i => ih a i hs.tail hs'.tail]

def Res.err : Res → Option Err
  | .done _ _ => none
  | .fail e _ => some e
  | .doneFail _ e _ => some e

def Gone (atts : List Attempt) (a : Nat) : Prop := ∀ x ∈ atts, x.id = a → x.terminated = true
def Term (atts : List Attempt) (a : Nat) : Prop := ∃ x ∈ atts, x.id = a ∧ x.terminated = true

@[simp] theorem gone_cons (x : Attempt) (l : List Attempt) (a : Nat) :
    Gone (x :: l) a ↔ (x.id = a → x.terminated = true) ∧ Gone l a := List.forall_mem_cons
@[simp] theorem term_cons (x : Attempt) (l : List Attempt) (a : Nat) :
    Term (x :: l) a ↔ (x.id = a ∧ x.terminated = true) ∨ Term l a := by simp [Term]

/-- what `.failAttempt a e` among the outputs of the walk `w` of result `r` over `atts` says (`sweeps`: `checkPending` follows) -/
structure SaysFail (q : Quirks) (atts : List Attempt) (r : Res) (w : Walk) (a : Nat) (e : Err) : Prop where
  err : r.err = some e
  genuine : e ≠ .taskTerminated
  live : q.refail = false → ¬Gone atts a
  term : Term w.atts a
  sweeps : (w.cpr || w.endNow.isSome) = true

theorem saysFail_iff {q : Quirks} {atts : List Attempt} {r : Res} {w : Walk} {a : Nat} {e : Err} :
    SaysFail q atts r w a e ↔ r.err = some e ∧ e ≠ .taskTerminated ∧ (q.refail = false → ¬Gone atts a) ∧
      Term w.atts a ∧ (w.cpr || w.endNow.isSome) = true :=
  ⟨fun h => ⟨h.err, h.genuine, h.live, h.term, h.sweeps⟩, fun h => ⟨h.1, h.2.1, h.2.2.1, h.2.2.2.1, h.2.2.2.2⟩⟩

/-- what an outcome among the outputs of the walk `w` of result `r` over `atts` says -/
def Says (q : Quirks) (atts : List Attempt) (r : Res) (w : Walk) : Out → Prop
  | .succeed a _ => r.err = none ∧ ¬Gone atts a
  | .failAttempt a e => SaysFail q atts r w a e
  | .aborted a => ¬Gone atts a ∧ Term w.atts a
  | _ => True

theorem says_other {q : Quirks} {atts : List Attempt} {r : Res} {w : Walk} (o : Out) (h : ¬o.outcome = true) :
    Says q atts r w o := by
  cases o <;> first | trivial | exact absurd rfl h

theorem says_ite {q : Quirks} {atts : List Attempt} {r : Res} {w : Walk} (c : Prop) [Decidable c] (o o' : Out) :
    Says q atts r w (if c then o else o') ↔ (c → Says q atts r w o) ∧ (¬c → Says q atts r w o') := by
  split <;> simp_all

/-- an attempt that is terminated is failed again only under `refail`, and then only by a genuine error -/
theorem refail_guard (t rf : Bool) (e : Err) :
    ¬(t && (e == .taskTerminated || !rf)) = true ↔ (e = .taskTerminated ∨ rf = false → t = false) := by
  cases t <;> cases rf <;> simp

theorem Says.under {q : Quirks} {rest : List Attempt} {r' r : Res} {w : Walk} {o : Out} {x x' : Attempt} {os : List Out}
    (h : Says q rest r' w o) (hr : r'.err = r.err) : Says q (x :: rest) r (w.under x' os) o := by
  cases o <;> simp_all [Says, saysFail_iff, Walk.under]

section
attribute [local simp] says_ite Says.eq_1 Says.eq_2 Says.eq_3 saysFail_iff says_other Res.err
attribute [local simp ↓] refail_guard

theorem bub_says (q : Quirks) (e : Bool) (atts : List Attempt) (a i : Nat) (r : Res) :
    ∀ o ∈ (bubble q e atts a i r).outs, Says q atts r (bubble q e atts a i r) o := by
  fun_induction bubble q e atts a i r
  -- the recursive calls of `bubble`: a completed join, an unhandled failure, a join that completes and then fails, each
  -- going on to the enclosing attempt (5, 11, 18), and another attempt's record (20); this level's outputs, then the rest's
  case case5 ih | case11 ih | case18 ih | case20 ih =>
    refine List.forall_mem_append.mpr ⟨?_, fun o h => (ih o h).under (by rfl)⟩
    clear ih
    simp_all +zetaDelta [Walk.under, bub_fail_sweeps]
  all_goals simp_all +zetaDelta

end

def finishState (s : Proto) (w : Walk) : Proto :=
  { s with atts := w.atts, hasMeta := true, ended := if w.endNow.isSome then w.endNow else s.ended }

theorem finish_eq (q : Quirks) (s : Proto) (w : Walk) :
    finish q s w =
      if w.cpr || w.endNow.isSome then
        ((checkPending q (finishState s w)).1, w.outs ++ (checkPending q (finishState s w)).2)
      else (finishState s w, w.outs) := rfl

theorem finish_ended (q : Quirks) (s : Proto) (w : Walk) :
    (finish q s w).1.ended = if w.endNow.isSome then w.endNow else s.ended := by
  fun_cases finish q s w
  · exact cp_ended _ _
  · rfl

theorem finish_sweeps (q : Quirks) (s : Proto) (w : Walk) : Same (finishState s w) (finish q s w).1 := by
  fun_cases finish q s w
  · exact cp_same _ _
  · exact Same.refl _

theorem finishState_same {s : Proto} {w : Walk} (h : KeepsAll s.atts w.atts) : Same s (finishState s w) :=
  same_of_atts s _ true _ h (fun he => by split <;> assumption)

theorem finish_same (q : Quirks) (s : Proto) (w : Walk) (h : KeepsAll s.atts w.atts) : Same s (finish q s w).1 :=
  (finishState_same h).trans (finish_sweeps q s w)

theorem finish_outs (q : Quirks) (s : Proto) (w : Walk) :
    ∃ os, (finish q s w).2 = w.outs ++ os ∧ ∀ o ∈ os, o.tidy = true := by
  fun_cases finish q s w
  · exact ⟨_, rfl, cp_tidy _ _⟩
  · exact ⟨[], (List.append_nil _).symm, fun o ho => by cases ho⟩

theorem finish_quiet {q : Quirks} {s : Proto} {w : Walk} (h : ∀ o ∈ w.outs, o.quiet = true) :
    ∀ o ∈ (finish q s w).2, o.quiet = true := by
  obtain ⟨os, hos, ht⟩ := finish_outs q s w
  rw [hos]
  exact List.forall_mem_append.mpr ⟨h, fun o ho => tidy_quiet o (ht o ho)⟩

theorem step_echo (q : Quirks) (s : Proto) (a i : Nat) (x : Attempt) (hf : find s.atts a = some x) :
    step q s (.echo a i) =
      if x.seen && x.slots[i]? == some .cancelling then
        finish q s (bubble q s.ended.isSome s.atts a i (.fail .taskTerminated []))
      else (s, [.orphan a i]) := by
  unfold step
  simp only [hf]

theorem step_reply_terminated (q : Quirks) (s : Proto) (a i : Nat) (k : Kont) (x : Attempt) (hf : find s.atts a = some x)
    (ht : x.terminated = true) :
    step q s (.reply a i k) =
      if x.seen && (x.slots[i]?).any Slot.cancellable then
        finish q { s with atts := upd s.atts a (setSlot i Slot.disarm) }
          (bubble q s.ended.isSome (upd s.atts a (setSlot i Slot.disarm)) a i (.fail .taskTerminated []))
      else (s, [.orphan a i]) := by
  unfold step
  simp only [hf]
  cases x.slots[i]? <;> simp [ht]

theorem torn_quiet {q : Quirks} {c e : Bool} {s s1 : Proto} {a i : Nat} :
    ∀ o ∈ (if c = true then finish q s1 (bubble q e s1.atts a i (.fail .taskTerminated [])) else (s, [Out.orphan a i])).2,
      o.quiet = true := by
  split
  · exact finish_quiet bub_tt.1
  · exact List.forall_mem_singleton.mpr rfl

structure Edits (s s1 : Proto) : Prop where
  atts : KeepsAll s.atts s1.atts
  fresh : s1.fresh = s.fresh
  ended : s1.ended = s.ended

theorem Edits.refl (s : Proto) : Edits s s := ⟨KeepsAll.refl _, rfl, rfl⟩

theorem Edits.same {s s1 : Proto} (h : Edits s s1) : Same s s1 :=
  ⟨Nat.le_of_eq h.fresh.symm, fun he => h.ended ▸ he, Or.inr h.atts⟩

/-- a handler gets to run on branch `i` of attempt `a`, in the state given -/
inductive Opened (q : Quirks) (s : Proto) (a i : Nat) : Proto → Prop
  | looked (x : Attempt) (hf : find s.atts a = some x) (hd : lookupDead q s a x = false) :
      Opened q s a i { s with hasMeta := true, atts := seenAtts s a }
  | replied (x : Attempt) (sl : Slot) (hf : find s.atts a = some x) (hs : x.slots[i]? = some sl) (hseen : x.seen = true)
      (hc : sl.cancellable = true) : Opened q s a i { s with atts := upd s.atts a (setSlot i Slot.disarm) }

theorem Opened.edits {q : Quirks} {s s1 : Proto} {a i : Nat} (h : Opened q s a i s1) : Edits s s1 := by
  cases h with
  | looked x hf hd => exact ⟨seenAtts_keeps s a, rfl, rfl⟩
  | replied x sl hf hs hseen hc => exact ⟨upd_keeps (setSlot_keeps _ _), rfl, rfl⟩

/-- what a step puts out before it calls `checkPending` on `s1` -/
inductive Pre (q : Quirks) (s s1 : Proto) : List Out → Prop
  | tidy (pre : List Out) (he : s1.ended = s.ended) (ht : ∀ o ∈ pre, o.tidy = true) : Pre q s s1 pre
  | ending (ok : Bool) (he : s1.ended = some ok) (hg : s.ended.isSome = false ∨ q.topUnguarded = true) :
      Pre q s s1 [.endExecution ok]

def Kont.res : Kont → Option Res
  | .done v ups => some (.done v ups)
  | .fail e hs => some (.fail e hs)
  | .doneFail v e hs => some (.doneFail v e hs)
  | _ => none

def Inp.kont : Inp → Option Kont
  | .event _ _ k | .deferred _ _ k | .reply _ _ k => some k
  | _ => none

/-- `ko`: the continuation of the input, if it carries one -/
inductive Shape (q : Quirks) (s : Proto) (ko : Option Kont) : Proto × List Out → Prop
  /-- refused, orphan, unknown, dropped by the execution record, an idle back stop -/
  | still (os : List Out) (h : ∀ o ∈ os, o.tidy = true) : Shape q s ko (s, os)
  /-- a dropped event, a top-level ending or the back stop, then `checkPending` -/
  | swept (s1 : Proto) (pre : List Out) (hm : s1.hasMeta = true) (hs : Same s s1) (hp : Pre q s s1 pre) :
      Shape q s ko ((checkPending q s1).1, pre ++ (checkPending q s1).2)
  | launched (s1 : Proto) (att : Attempt) (hed : Edits s s1)
      (hfrom : (s1 = s ∧ (s.ended.isSome = false ∨ q.topUnguarded = true)) ∨ ∃ p i, Opened q s p i s1)
      (hid : s.fresh ≤ att.id) (hseen : att.seen = false) (hterm : att.terminated = false)
      (hslots : ∀ sl ∈ att.slots, sl = .pending ∨ sl = .unlaunched) :
      Shape q s ko ({ s1 with atts := att :: s1.atts, fresh := att.id + 1 }, [.launched att.id])
  /-- the branch goes on, with or without a change of its slot(s) -/
  | moved (s1 : Proto) (a i : Nat) (atts' : List Attempt) (ho : Opened q s a i s1) (hk : KeepsAll s1.atts atts') :
      Shape q s ko ({ s1 with atts := atts' }, [.progress a i])
  /-- a result walks up from branch `i` of attempt `a`: of a handler that got to run, or the Task.Terminated of a cancel -/
  | walked (s1 : Proto) (a i : Nat) (r : Res) (pre : List Out) (hed : Edits s s1)
      (hpre : pre = [] ∨ pre = [.progress a i])
      (hfrom : Opened q s a i s1 ∨ (r = .fail .taskTerminated [] ∧ pre = []))
      (hres : r = .fail .taskTerminated [] ∨ ∃ k, ko = some k ∧ k.res = some r) :
      Shape q s ko ((finish q s1 (bubble q s1.ended.isSome s1.atts a i r)).1,
                    pre ++ (finish q s1 (bubble q s1.ended.isSome s1.atts a i r)).2)
  | topEnd (ok : Bool) (hm : s.hasMeta = false) (hg : s.ended.isSome = false ∨ q.topUnguarded = true) :
      Shape q s ko ({ s with ended := some ok }, [.endExecution ok])
  | discarded (hm : s.hasMeta = true) (he : s.ended.isSome = true) :
      Shape q s ko ({ s with atts := [], hasMeta := false }, [.discard])

theorem Shape.one {q : Quirks} {s : Proto} {ko : Option Kont} (o : Out) (h : o.tidy = true) : Shape q s ko (s, [o]) :=
  .still [o] (List.forall_mem_singleton.mpr h)

theorem guard_of_not {q : Quirks} {s : Proto} (h : ¬(s.ended.isSome && !q.topUnguarded) = true) :
    s.ended.isSome = false ∨ q.topUnguarded = true := by
  cases h1 : s.ended.isSome <;> cases h2 : q.topUnguarded <;> simp_all

theorem continue_shape (q : Quirks) (s s1 : Proto) (a i : Nat) (k : Kont) (ho : Opened q s a i s1) :
    Shape q s (some k) (continue_ q s1 a i k) := by
  have walk : ∀ r, k.res = some r → Shape q s (some k)
      ((finish q s1 (bubble q s1.ended.isSome s1.atts a i r)).1,
        [.progress a i] ++ (finish q s1 (bubble q s1.ended.isSome s1.atts a i r)).2) :=
    fun r hr => .walked s1 a i r [.progress a i] ho.edits (Or.inr rfl) (Or.inl ho) (Or.inr ⟨k, rfl, hr⟩)
  cases k with
  | goesOn => exact .moved s1 a i s1.atts ho (KeepsAll.refl _)
  | arm | caughtOn => exact .moved s1 a i _ ho (upd_keeps (setSlot_keeps _ _))
  | done v ups | fail e hs | doneFail v e hs => exact walk _ rfl

/-- (the form in which `viaLookup` and the nested launch use a lookup) -/
theorem lookup_shape {q : Quirks} {s : Proto} {a i : Nat} {ko : Option Kont} {go : Proto → Proto × List Out}
    (hgo : ∀ s1, Opened q s a i s1 → Shape q s ko (go s1)) :
    Shape q s ko (match lookup q s a i with
      | (.accept, s1, _) => go s1
      | (_, s1, outs) => (s1, outs)) := by
  rcases lookup_cases q s a i with h | h | ⟨x, _, _, h⟩ | ⟨x, hf, hd, h⟩
  · rw [h.1]; exact .one _ rfl
  · rw [h]; exact .one _ rfl
  · rw [h]
    exact .swept _ [.drop a i] rfl (same_of_atts s _ true s.ended (marked_keeps q s a i) (fun h => h))
      (.tidy _ rfl (List.forall_mem_singleton.mpr rfl))
  · rw [h]; exact hgo _ (.looked x hf hd)

theorem viaLookup_shape (q : Quirks) (s : Proto) (a i : Nat) (k : Kont) : Shape q s (some k) (viaLookup q s a i k) :=
  lookup_shape fun s1 ho => continue_shape q s s1 a i k ho

theorem step_shape (q : Quirks) (s : Proto) (inp : Inp) : Shape q s inp.kont (step q s inp) := by
  -- (`iteInduction` for the conditionals of `step`: `split` simplifies the whole goal with the condition, which is slow)
  cases inp with
  | launch a n hi par k =>
    rw [step]
    refine iteInduction (fun _ => .one _ rfl) fun hlt => ?_
    have hslots : ∀ sl ∈ (List.range n).map (fun j => if j < hi then Slot.pending else Slot.unlaunched),
        sl = .pending ∨ sl = .unlaunched :=
      List.forall_mem_map.mpr fun j _ => (Decidable.em (j < hi)).imp (if_pos ·) (if_neg ·)
    cases par with
    | none =>
      exact iteInduction (fun _ => .one _ rfl) fun hg =>
        .launched s _ (Edits.refl s) (Or.inl ⟨rfl, guard_of_not hg⟩) (Nat.le_of_not_lt hlt) rfl rfl hslots
    | some pi =>
      obtain ⟨p, i⟩ := pi
      exact lookup_shape fun s1 ho =>
        .launched s1 _ ho.edits (Or.inr ⟨p, i, ho⟩) (Nat.le_of_not_lt hlt) rfl rfl hslots
  | batch a lo hi launch =>
    rw [step]
    rcases lookup_cases q s a lo with h | h | ⟨x, _, _, h⟩ | ⟨x, hf, hd, h⟩
    · rw [h.1]
      simp only [h.2.1, Bool.false_eq_true, if_false]
      exact .one _ rfl
    · rw [h]; exact .one _ rfl
    · rw [h]
      have h1 : Same s { s with hasMeta := true, atts := marked q s a lo } :=
        same_of_atts s _ true s.ended (marked_keeps q s a lo) (fun h => h)
      simp only
      refine iteInduction (fun hm => ?_) fun _ =>
        .swept _ [.drop a lo] rfl h1 (.tidy _ rfl (List.forall_mem_singleton.mpr rfl))
      exact .swept _ (.drop a lo :: _) hm ((h1.trans (cp_same _ _)).trans
        (same_of_atts _ _ _ _ (upd_keeps (setRange_keeps _ _ _)) (fun h => h)))
        (.tidy _ ((cp_ended _ _).trans rfl) (List.forall_mem_cons.mpr ⟨rfl, cp_tidy _ _⟩))
    · rw [h]
      simp only
      cases launch with
      | true => exact .moved _ a lo _ (.looked x hf hd) (upd_keeps (setRange_keeps _ _ _))
      | false => exact .moved _ a lo _ (.looked x hf hd) (KeepsAll.refl _)
  | event a i k | deferred a i k => exact viaLookup_shape q s a i k
  | reply a i k =>
    rw [step]
    cases hf : find s.atts a with
    | none => exact .one _ rfl
    | some x =>
      simp only
      cases hs : x.slots[i]? with
      | none => exact .one _ rfl
      | some sl =>
        refine iteInduction (fun hg => ?_) fun _ => .one _ rfl
        simp only [Bool.and_eq_true] at hg
        have ho := Opened.replied (q := q) x sl hf hs hg.1 hg.2
        exact iteInduction
          (fun _ => .walked _ a i (.fail .taskTerminated []) [] ho.edits (Or.inl rfl) (Or.inl ho) (Or.inl rfl))
          fun _ => continue_shape q s _ a i k ho
  | echo a i =>
    rw [step]
    cases hf : find s.atts a with
    | none => exact .one _ rfl
    | some x =>
      exact iteInduction
        (fun _ => .walked s a i (.fail .taskTerminated []) [] (Edits.refl s) (Or.inl rfl) (Or.inr ⟨rfl, rfl⟩) (Or.inl rfl))
        fun _ => .one _ rfl
  | topEnd ok =>
    rw [step]
    refine iteInduction (fun _ => .one _ rfl) fun hg => iteInduction (fun hm => ?_) fun hm => ?_
    · exact .swept { s with ended := some ok } [.endExecution ok] hm
        (same_of_atts s s.atts s.hasMeta (some ok) (KeepsAll.refl _) (fun _ => rfl)) (.ending ok rfl (guard_of_not hg))
    · exact .topEnd ok (Bool.eq_false_iff.mpr hm) (guard_of_not hg)
  | backstop =>
    rw [step]
    refine iteInduction (fun _ => .still [] (fun o ho => by cases ho)) fun hm => ?_
    simp only [Bool.not_eq_true', Bool.not_eq_false] at hm
    refine iteInduction (.discarded hm) fun he => ?_
    exact .swept { s with ended := some false, atts := s.atts.map _ } [.endExecution false] hm
      (same_of_atts s _ s.hasMeta (some false) (All2.map _ (fun _ => .ite fun h => .edit h (ht := fun _ => rfl)) _) (fun _ => rfl))
      (.ending false rfl (Or.inl (Bool.eq_false_iff.mpr he)))

inductive Evolves (s s' : Proto) : Prop where
  | same (h : Same s s')
  | more (att : Attempt) (rest : List Attempt) (h : s'.atts = att :: rest) (hk : KeepsAll s.atts rest)
      (hid : s.fresh ≤ att.id) (hf : att.id < s'.fresh) (he : s.ended.isSome = true → s'.ended.isSome = true)
      (hu : UnseenOK att) (ht : att.terminated = false)

theorem step_evolves (q : Quirks) (s : Proto) (inp : Inp) : Evolves s (step q s inp).1 := by
  have h := step_shape q s inp
  generalize step q s inp = res at h
  cases h with
  | still os _ => exact .same (Same.refl s)
  | swept s1 pre hm hs hp => exact .same (hs.trans (cp_same q s1))
  | launched s1 att hed hfrom hid hseen hterm hslots =>
    exact .more att s1.atts rfl hed.atts hid (Nat.lt_succ_self _) (fun he => hed.ended ▸ he) (fun _ => hslots) hterm
  | moved s1 a i atts' ho hk =>
    exact .same (Edits.same ⟨ho.edits.atts.trans hk, ho.edits.fresh, ho.edits.ended⟩)
  | walked s1 a i r pre hed => exact .same (hed.same.trans (finish_same _ _ _ bub_keeps))
  | topEnd ok hm hg => exact .same (same_of_atts s s.atts s.hasMeta (some ok) (KeepsAll.refl _) (fun _ => rfl))
  | discarded hm he => exact .same ⟨Nat.le_refl _, fun h => h, Or.inl rfl⟩

theorem Evolves.ended {s s' : Proto} (h : Evolves s s') : s.ended.isSome = true → s'.ended.isSome = true := by
  cases h with
  | same h => exact h.ended
  | more att rest _ _ _ _ he => exact he

theorem Evolves.fresh {s s' : Proto} (h : Evolves s s') : s.fresh ≤ s'.fresh := by
  cases h with
  | same h => exact h.fresh
  | more att rest _ _ hid hf => exact Nat.le_of_lt (Nat.lt_of_le_of_lt hid hf)

theorem evolves_forall {P : Attempt → Prop} (hk : ∀ x x', Keeps x x' → P x → P x') {s s' : Proto} (h : Evolves s s')
    (hnew : ∀ att, s.fresh ≤ att.id → att.id < s'.fresh → UnseenOK att → att.terminated = false → P att)
    (hs : ∀ x ∈ s.atts, P x) : ∀ x ∈ s'.atts, P x := by
  cases h with
  | same h =>
    rcases h.atts with hh | hh
    · rw [hh]; exact fun _ hx => nomatch hx
    · exact hh.forall hk hs
  | more att rest h hk' hid hf _ hu ht =>
    rw [h]
    exact List.forall_mem_cons.mpr ⟨hnew _ hid hf hu ht, hk'.forall hk hs⟩

theorem ts_step (q : Quirks) (s : Proto) (inp : Inp) (h : TermSeen s.atts) : TermSeen (step q s inp).1.atts :=
  evolves_forall (fun _ _ hk => hk.termSeenOK) (step_evolves q s inp) (fun att _ _ _ ht h => by rw [ht] at h; cases h) h

theorem step_unseen (q : Quirks) (s : Proto) (inp : Inp) (h : UnseenPending s.atts) : UnseenPending (step q s inp).1.atts :=
  evolves_forall (fun _ _ hk => hk.unseenOK) (step_evolves q s inp) (fun _ _ _ hu _ => hu) h

theorem step_ends (q : Quirks) (s : Proto) (inp : Inp) :
    ((step q s inp).2.filter isEnd = [] ∧ (step q s inp).1.ended = s.ended) ∨
      ∃ ok, (step q s inp).2.filter isEnd = [.endExecution ok] ∧ (step q s inp).1.ended = some ok := by
  have hsh := step_shape q s inp
  generalize step q s inp = res at hsh
  cases hsh with
  | still os ht => exact Or.inl ⟨tidy_filter_nil os ht, rfl⟩
  | swept s1 pre hm hs hp =>
    simp only [List.filter_append, tidy_filter_nil _ (cp_tidy q s1), List.append_nil]
    cases hp with
    | tidy _ he ht => exact Or.inl ⟨tidy_filter_nil pre ht, (cp_ended q s1).trans he⟩
    | ending ok he _ => exact Or.inr ⟨ok, rfl, (cp_ended q s1).trans he⟩
  | launched s1 att hed => exact Or.inl ⟨rfl, hed.ended⟩
  | moved s1 a i atts' ho hk => exact Or.inl ⟨rfl, ho.edits.ended⟩
  | walked s1 a i r pre hed hpre =>
    -- the endings among the outputs are those of the walk (`bub_ends`), which `finish` records
    obtain ⟨os, hos, ht⟩ := finish_outs q s1 (bubble q s1.ended.isSome s1.atts a i r)
    have hp : pre.filter isEnd = [] := by rcases hpre with rfl | rfl <;> rfl
    simp only [List.filter_append, hp, hos, tidy_filter_nil os ht, List.append_nil, List.nil_append, bub_ends, finish_ended]
    cases (bubble q s1.ended.isSome s1.atts a i r).endNow with
    | none => exact Or.inl ⟨rfl, hed.ended⟩
    | some ok => exact Or.inr ⟨ok, rfl, rfl⟩
  | topEnd ok hm hg => exact Or.inr ⟨ok, rfl, rfl⟩
  | discarded hm he => exact Or.inl ⟨rfl, rfl⟩

structure Inv (s : Proto) : Prop where
  noTask : s.ended.isSome = true → NoTask s.atts
  /-- after the end the metadata is retained only while some results entry waits for a result -/
  pending : s.ended.isSome = true → s.hasMeta = true → SomePending s.atts
  /-- without metadata there is no results entry -/
  noMeta : s.hasMeta = false → ∀ x ∈ s.atts, x.seen = false
  unseen : UnseenPending s.atts

theorem ts_init : TermSeen init.atts := fun _ hx => nomatch hx

theorem inv_init : Inv init := by
  constructor <;> simp [init, NoTask, UnseenPending]

theorem Opened.running {s s1 : Proto} {a i : Nat} (h : Inv s) (ho : Opened Quirks.none s a i s1) :
    s.ended.isSome = false ∧ s1.hasMeta = true := by
  cases ho with
  | looked x hf hd =>
    simp only [lookupDead, Quirks.none, Bool.false_eq_true, if_false, Bool.or_eq_false_iff] at hd
    exact ⟨hd.1, rfl⟩
  | replied x sl hf hs hseen hc =>
    have hx := (find_mem hf).1
    constructor
    · cases he : s.ended.isSome
      · rfl
      · rw [h.noTask he x hx hseen sl (List.mem_of_getElem? hs)] at hc
        cases hc
    · cases hm : s.hasMeta
      · rw [h.noMeta hm x hx] at hseen
        cases hseen
      · rfl

theorem inv_running (s : Proto) (hne : s.ended.isSome = false) (hm : s.hasMeta = false → ∀ x ∈ s.atts, x.seen = false)
    (hu : UnseenPending s.atts) : Inv s :=
  ⟨fun he => by simp [hne] at he, fun he => by simp [hne] at he, hm, hu⟩

theorem inv_cp (q : Quirks) (s : Proto) (hm : s.hasMeta = true) (hu : UnseenPending (checkPending q s).1.atts) :
    Inv (checkPending q s).1 := by
  refine ⟨fun he => ?_, fun he hmm => ?_, fun hmm x hx => ?_, hu⟩
  · rw [cp_ended] at he; exact cp_noTask _ s he
  · rw [cp_ended] at he; exact cp_pending _ s he hmm
  · rcases cp_atts _ s with h | h
    · rw [h.1] at hx; cases hx
    · rw [h.2.1, hm] at hmm; cases hmm

/-- (`hu`: every operation keeps `UnseenPending`, `step_unseen`; it is not looked at here) -/
theorem finish_inv (q : Quirks) (s : Proto) (w : Walk) (hu : UnseenPending (finish q s w).1.atts)
    (hc : s.ended.isSome = true → w.cpr = true) : Inv (finish q s w).1 := by
  rw [finish_eq] at hu ⊢
  by_cases hcond : (w.cpr || w.endNow.isSome) = true
  · rw [if_pos hcond] at hu ⊢
    exact inv_cp _ _ rfl hu
  · -- no `checkPending`: then nothing has ended, neither before (`hc`) nor now
    rw [if_neg hcond] at hu ⊢
    simp only [Bool.or_eq_true, not_or, Bool.not_eq_true] at hcond
    refine inv_running _ ?_ (fun hm => by cases hm) hu
    cases hq : s.ended.isSome
    · simp [finishState, hcond.2, hq]
    · simp [hc hq] at hcond

theorem inv_step (s : Proto) (inp : Inp) (h : Inv s) : Inv (step Quirks.none s inp).1 := by
  have hu := step_unseen Quirks.none s inp h.unseen
  have hsh := step_shape Quirks.none s inp
  generalize step Quirks.none s inp = res at hsh hu
  cases hsh with
  | still os _ => exact h
  | swept s1 pre hm hs hp => exact inv_cp _ s1 hm hu
  | launched s1 att hed hfrom hid hseen hterm hslots =>
    rcases hfrom with ⟨rfl, hg⟩ | ⟨p, i, ho⟩
    · refine inv_running _ (by simpa [Quirks.none] using hg) (fun hm x hx => ?_) hu
      rcases List.mem_cons.mp hx with rfl | hx
      · exact hseen
      · exact h.noMeta hm x hx
    · have hr := ho.running h
      exact inv_running _ (hed.ended ▸ hr.1) (fun hm => by rw [hr.2] at hm; cases hm) hu
  | moved s1 a i atts' ho hk =>
    have hr := ho.running h
    exact inv_running _ (ho.edits.ended ▸ hr.1) (fun hm => by rw [hr.2] at hm; cases hm) hu
  | walked s1 a i r pre hed hpre hfrom =>
    apply finish_inv _ _ _ hu
    intro he
    rcases hfrom with ho | ⟨rfl, _⟩
    · rw [hed.ended, (ho.running h).1] at he
      cases he
    · exact bub_tt.2.2 he
  | topEnd ok hm hg =>
    refine ⟨fun _ x hx hs => ?_, fun _ hmm => ?_, h.noMeta, hu⟩
    · rw [h.noMeta hm x hx] at hs
      cases hs
    · rw [hm] at hmm
      cases hmm
  | discarded hm he =>
    refine ⟨fun _ x hx => ?_, fun _ hmm => ?_, fun _ x hx => ?_, hu⟩
    · cases hx
    · cases hmm
    · cases hx

theorem step_quiet_after_end (s : Proto) (inp : Inp) (h : Inv s) (he : s.ended.isSome = true) :
    ∀ o ∈ (step Quirks.none s inp).2, o.quiet = true := by
  have hg : ¬(s.ended.isSome = false ∨ Quirks.none.topUnguarded = true) := by simp [he, Quirks.none]
  have hno : ∀ {a i s1}, ¬Opened Quirks.none s a i s1 := fun ho => by
    have := (ho.running h).1
    rw [he] at this
    cases this
  have hsh := step_shape Quirks.none s inp
  generalize step Quirks.none s inp = res at hsh
  cases hsh with
  | still os ht => exact fun o ho => tidy_quiet o (ht o ho)
  | swept s1 pre hm hs hp =>
    refine List.forall_mem_append.mpr ⟨?_, cp_quiet _ _⟩
    cases hp with
    | tidy _ _ ht => exact fun o ho => tidy_quiet o (ht o ho)
    | ending ok _ hg' => exact absurd hg' hg
  | launched s1 att hed hfrom =>
    rcases hfrom with ⟨_, hg'⟩ | ⟨p, i, ho⟩
    · exact absurd hg' hg
    · exact absurd ho hno
  | moved s1 a i atts' ho hk => exact absurd ho hno
  | walked s1 a i r pre hed hpre hfrom =>
    rcases hfrom with ho | ⟨rfl, rfl⟩
    · exact absurd ho hno
    · exact finish_quiet bub_tt.1
  | topEnd ok hm hg' => exact absurd hg' hg
  | discarded hm he => exact List.forall_mem_singleton.mpr rfl

theorem run_induct {P : Proto → Prop} (q : Quirks) (hstep : ∀ s i, P s → P (step q s i).1) (s : Proto) (is : List Inp)
    (h : P s) : P (run q s is).1 := by
  induction is generalizing s with
  | nil => exact h
  | cons i is ih => exact ih _ (hstep s i h)

theorem run_mem {q : Quirks} {s : Proto} {is : List Inp} {o : Out} (h : o ∈ (run q s is).2) :
    ∃ pre i post, is = pre ++ i :: post ∧ o ∈ (step q (run q s pre).1 i).2 ∧
      (run q s is).1 = (run q (step q (run q s pre).1 i).1 post).1 := by
  induction is generalizing s with
  | nil => cases h
  | cons i is ih =>
    simp only [run, List.mem_append] at h
    rcases h with h | h
    · exact ⟨[], i, is, rfl, h, rfl⟩
    · obtain ⟨pre, j, post, rfl, hj, hfin⟩ := ih h
      exact ⟨i :: pre, j, post, rfl, hj, hfin⟩

theorem run_inv (s : Proto) (is : List Inp) (h : Inv s) : Inv (run Quirks.none s is).1 :=
  run_induct Quirks.none inv_step s is h

theorem run_ended_mono (q : Quirks) (s : Proto) (is : List Inp) (h : s.ended.isSome = true) :
    (run q s is).1.ended.isSome = true :=
  run_induct (P := fun s => s.ended.isSome = true) q (fun s i => (step_evolves q s i).ended) s is h

theorem run_quiet_after_end (s : Proto) (is : List Inp) (h : Inv s) (he : s.ended.isSome = true) :
    ∀ o ∈ (run Quirks.none s is).2, o.quiet = true := by
  intro o ho
  obtain ⟨pre, i, _, _, hi, _⟩ := run_mem ho
  exact step_quiet_after_end _ i (run_inv s pre h) (run_ended_mono _ s pre he) o hi

/-- the ending an execution record holds, as the output that records it -/
def endsOf (e : Option Bool) : List Out := (e.map Out.endExecution).toList

theorem step_endings (s : Proto) (i : Inp) (h : Inv s) :
    endsOf s.ended ++ (step Quirks.none s i).2.filter isEnd = endsOf (step Quirks.none s i).1.ended := by
  rcases step_ends Quirks.none s i with ⟨h1, h2⟩ | ⟨ok, h1, h2⟩
  · rw [h1, h2, List.append_nil]
  · -- an ending is put out: the execution had not ended (`step_quiet_after_end`)
    cases he : s.ended with
    | none => rw [h1, h2]; rfl
    | some b =>
      rw [quiet_filter_nil _ (step_quiet_after_end s i h (by rw [he]; rfl))] at h1
      cases h1

/-- (`endsOf` has at most one element: at most one ending in all, and none after a recorded one) -/
theorem run_endings (s : Proto) (is : List Inp) (h : Inv s) :
    endsOf s.ended ++ (run Quirks.none s is).2.filter isEnd = endsOf (run Quirks.none s is).1.ended := by
  induction is generalizing s with
  | nil => exact List.append_nil _
  | cons i is ih =>
    simp only [run, List.filter_append]
    rw [← List.append_assoc, step_endings s i h, ih _ (inv_step s i h)]

theorem run_end_ended (s : Proto) (is : List Inp) (ok : Bool) (hi : Inv s) (h : Out.endExecution ok ∈ (run Quirks.none s is).2) :
    (run Quirks.none s is).1.ended.isSome = true := by
  have hm : Out.endExecution ok ∈ endsOf (run Quirks.none s is).1.ended :=
    run_endings s is hi ▸ List.mem_append_right _ (List.mem_filter.mpr ⟨h, rfl⟩)
  cases he : (run Quirks.none s is).1.ended with
  | none => rw [he] at hm; cases hm
  | some _ => rfl

/-- ids strictly decrease along the list (newest first) and are below `fresh` -/
def WF (s : Proto) : Prop := (s.atts.map (·.id)).Pairwise (· > ·) ∧ ∀ x ∈ s.atts, x.id < s.fresh

theorem wf_init : WF init := by simp [WF, init]

theorem wf_evolves {s s' : Proto} (h : Evolves s s') (hw : WF s) : WF s' := by
  refine ⟨?_, evolves_forall (P := (·.id < s'.fresh)) (fun _ _ hk hx => hk.ident ▸ hx) h (fun _ _ hf _ _ => hf)
    (fun x hx => Nat.lt_of_lt_of_le (hw.2 x hx) h.fresh)⟩
  cases h with
  | same h =>
    rcases h.atts with hh | hh
    · simp [hh]
    · rw [hh.ids]; exact hw.1
  | more att rest h hk hid hf =>
    rw [h, List.map_cons, List.pairwise_cons, hk.ids]
    refine ⟨?_, hw.1⟩
    intro b hb
    obtain ⟨x, hx, rfl⟩ := List.mem_map.mp hb
    exact Nat.lt_of_lt_of_le (hw.2 x hx) hid

theorem run_wf (q : Quirks) (s : Proto) (is : List Inp) (h : WF s) : WF (run q s is).1 :=
  run_induct q (fun s i => wf_evolves (step_evolves q s i)) s is h

theorem unique_of_sorted (l : List Attempt) (h : (l.map (·.id)).Pairwise (· > ·)) :
    ∀ x ∈ l, ∀ y ∈ l, x.id = y.id → x = y := by
  rw [List.pairwise_map] at h
  exact List.Pairwise.forall_of_forall_of_flip (R := fun x y => x.id = y.id → x = y) (fun _ _ _ => rfl)
    (h.imp (fun hgt he => absurd he (Nat.ne_of_gt hgt))) (h.imp (fun hgt he => absurd he (Nat.ne_of_lt hgt)))

/-- attempt `a` will never hand over a result: its id is used up and its record, if it is still there, is terminated -/
def Dead (s : Proto) (a : Nat) : Prop := a < s.fresh ∧ Gone s.atts a

theorem dead_of_term {s : Proto} {a : Nat} (hw : WF s) (h : Term s.atts a) : Dead s a := by
  obtain ⟨x, hx, hid, ht⟩ := h
  exact ⟨hid ▸ hw.2 x hx, fun y hy hya => unique_of_sorted _ hw.1 y hy x hx (hya.trans hid.symm) ▸ ht⟩

theorem dead_evolves {s s' : Proto} (h : Evolves s s') (a : Nat) (hd : Dead s a) : Dead s' a :=
  -- a newly launched attempt has another id
  ⟨Nat.lt_of_lt_of_le hd.1 h.fresh,
    evolves_forall (P := fun x => x.id = a → x.terminated = true) (fun _ _ hk hx hid => hk.term (hx (hk.ident ▸ hid))) h
      (fun _ hid _ _ _ he => absurd hd.1 (Nat.not_lt.mpr (he ▸ hid))) hd.2⟩

theorem run_dead (q : Quirks) (s : Proto) (is : List Inp) (a : Nat) (h : Dead s a) : Dead (run q s is).1 a :=
  run_induct (P := (Dead · a)) q (fun s i => dead_evolves (step_evolves q s i) a) s is h

theorem run_ts (q : Quirks) (s : Proto) (is : List Inp) (h : TermSeen s.atts) : TermSeen (run q s is).1.atts :=
  run_induct (P := fun s => TermSeen s.atts) q (ts_step q) s is h

/-- the step of `inp` from `s` is the walk `w` of the result `r` over the attempts of `s1` -/
structure IsWalk (q : Quirks) (s : Proto) (inp : Inp) (s1 : Proto) (w : Walk) (r : Res) : Prop where
  edits : Edits s s1
  keeps : KeepsAll s1.atts w.atts
  state : (step q s inp).1 = (finish q s1 w).1
  says : ∀ o ∈ (step q s inp).2, Says q s1.atts r w o
  res : r = .fail .taskTerminated [] ∨ ∃ k, inp.kont = some k ∧ k.res = some r

theorem step_says (q : Quirks) (s : Proto) (inp : Inp) (o : Out) (ho : o ∈ (step q s inp).2) (hout : o.outcome = true) :
    ∃ s1 w r, IsWalk q s inp s1 w r := by
  have no : ∀ os : List Out, os.all (fun o => !o.outcome) = true → ∀ o' ∈ os, o'.outcome = true → False :=
    fun os h o' ho' hout' => by simpa [hout'] using List.all_eq_true.mp h o' ho'
  have tidy : ∀ os : List Out, (∀ o ∈ os, o.tidy = true) → ∀ o' ∈ os, o'.outcome = true → False :=
    fun os h o' ho' hout' => by rw [tidy_not_outcome o' (h o' ho')] at hout'; cases hout'
  have hsh := step_shape q s inp
  generalize hres : step q s inp = res at hsh ho
  cases hsh with
  | still os ht => exact (tidy os ht o ho hout).elim
  | swept s1 pre hm hs hp =>
    rcases List.mem_append.mp ho with ho | ho
    · cases hp with
      | tidy _ _ ht => exact (tidy pre ht o ho hout).elim
      | ending ok _ _ => exact (no _ rfl o ho hout).elim
    · exact (tidy _ (cp_tidy _ _) o ho hout).elim
  | launched | moved | topEnd | discarded => exact (no _ rfl o ho hout).elim
  | walked s1 a i r pre hed hpre hfrom hr =>
    refine ⟨s1, _, r, hed, bub_keeps, by rw [hres], fun o' ho' => ?_, hr⟩
    -- an outcome among the outputs is one of the walk's: what comes before and after it only tidies up
    obtain ⟨os, hos, ht⟩ := finish_outs q s1 (bubble q s1.ended.isSome s1.atts a i r)
    rw [hres, hos] at ho'
    rcases List.mem_append.mp ho' with ho' | ho'
    · exact says_other o' (no pre (by rcases hpre with rfl | rfl <;> rfl) o' ho')
    · rcases List.mem_append.mp ho' with ho' | ho'
      · exact bub_says _ _ _ _ _ _ o' ho'
      · exact says_other o' (tidy os ht o' ho')

def Out.outcomeOf (q : Quirks) (a : Nat) (o : Out) : Prop :=
  (∃ vs, o = .succeed a vs) ∨ o = .aborted a ∨ (q.refail = false ∧ ∃ e, o = .failAttempt a e)

theorem step_dead (q : Quirks) (s : Proto) (inp : Inp) (a : Nat) (hd : Dead s a) :
    ∀ o ∈ (step q s inp).2, ¬o.outcomeOf q a := by
  intro o ho hof
  have hout : o.outcome = true := by rcases hof with ⟨vs, rfl⟩ | rfl | ⟨_, e, rfl⟩ <;> rfl
  obtain ⟨s1, w, r, hw⟩ := step_says q s inp o ho hout
  have hgone := (dead_evolves (.same hw.edits.same) a hd).2
  have := hw.says o ho
  rcases hof with ⟨vs, rfl⟩ | rfl | ⟨hq, e, rfl⟩
  · exact this.2 hgone
  · exact this.1 hgone
  · exact this.live hq hgone

theorem run_dead_outs (q : Quirks) (s : Proto) (is : List Inp) (a : Nat) (hd : Dead s a) :
    ∀ o ∈ (run q s is).2, ¬o.outcomeOf q a := by
  intro o ho
  obtain ⟨pre, i, _, _, hi, _⟩ := run_mem ho
  exact step_dead q _ i a (run_dead q s pre a hd) o hi

theorem step_fail_dead (q : Quirks) (s : Proto) (inp : Inp) (a : Nat) (hw : WF s) {o : Out} (ho : o ∈ (step q s inp).2)
    (ha : (∃ e, o = .failAttempt a e) ∨ o = .aborted a) : Dead (step q s inp).1 a := by
  obtain ⟨s1, w, r, hwk⟩ := step_says q s inp o ho (by rcases ha with ⟨e, rfl⟩ | rfl <;> rfl)
  have ht : Term w.atts a := by
    have := hwk.says o ho
    rcases ha with ⟨e, rfl⟩ | rfl
    · exact this.term
    · exact this.2
  have hwf : WF (finishState s1 w) := wf_evolves (.same (hwk.edits.same.trans (finishState_same hwk.keeps))) hw
  rw [hwk.state]
  exact dead_evolves (.same (finish_sweeps q s1 w)) a (dead_of_term hwf ht)

theorem run_fail_dead (q : Quirks) (s : Proto) (is : List Inp) (a : Nat) (hw : WF s) {o : Out} (ho : o ∈ (run q s is).2)
    (ha : (∃ e, o = .failAttempt a e) ∨ o = .aborted a) : Dead (run q s is).1 a := by
  obtain ⟨pre, i, post, _, hi, hfin⟩ := run_mem ho
  rw [hfin]
  exact run_dead q _ post a (step_fail_dead q _ i a (run_wf q s pre hw) hi ha)

theorem step_fail_excludes_succeed (q : Quirks) (s : Proto) (inp : Inp) (a b : Nat) (e : Err) (vs : List Nat)
    (h : Out.failAttempt a e ∈ (step q s inp).2) : Out.succeed b vs ∉ (step q s inp).2 := by
  intro hs
  obtain ⟨s1, w, r, hw⟩ := step_says q s inp _ h rfl
  have h1 := (hw.says _ h).err
  rw [(hw.says _ hs).1] at h1
  cases h1

theorem run_fail_then_no_succeed (q : Quirks) (s : Proto) (is : List Inp) (hw : WF s) (a : Nat) (e : Err) (vs : List Nat) :
    (run q s is).2.Pairwise (fun o o' => o = .failAttempt a e → o' ≠ .succeed a vs) := by
  induction is generalizing s with
  | nil => exact .nil
  | cons i is ih =>
    simp only [run]
    refine List.pairwise_append.mpr ⟨?_, ih _ (wf_evolves (step_evolves q s i) hw), ?_⟩
    · -- not within the step of the failure
      exact List.pairwise_of_forall_mem_list fun o ho o' ho' he hs =>
        step_fail_excludes_succeed q s i a a e vs (he ▸ ho) (hs ▸ ho')
    · -- nor later: that step leaves the attempt dead
      intro o ho o' ho' he hs
      exact run_dead_outs q _ is a (step_fail_dead q s i a hw ho (Or.inl ⟨e, he⟩)) o' ho' (Or.inl ⟨vs, hs⟩)

theorem find_cons (x : Attempt) (rest : List Attempt) (b : Nat) :
    find (x :: rest) b = if x.id == b then some x else find rest b := by
  unfold find
  rw [List.find?_cons]
  cases x.id == b <;> rfl

theorem find_map_id (f : Attempt → Attempt) (hf : ∀ x, (f x).id = x.id) (l : List Attempt) (b : Nat) :
    find (l.map f) b = (find l b).map f := by
  simp only [find, List.find?_map, Function.comp_def, hf]

theorem deadChain_map (f : Attempt → Attempt) (hf : KeepsChain f) (l : List Attempt) (b : Nat) :
    deadChain (l.map f) b = deadChain l b := by
  induction l generalizing b with
  | nil => rfl
  | cons x rest ih => simp only [List.map_cons, deadChain, hf x, ih]

theorem deadChain_of_found {l : List Attempt} {a : Nat} {x : Attempt} (hf : find l a = some x) (ht : x.terminated = true) :
    deadChain l a = true := by
  fun_induction deadChain l a <;> simp_all [find]

theorem deadChain_found (l : List Attempt) (b : Nat) (y : Attempt) (hf : find l b = some y) (hd : deadChain l b = false) :
    y.terminated = false := by
  cases ht : y.terminated with
  | false => rfl
  | true => rw [deadChain_of_found hf ht] at hd; cases hd

/-- `l'` leaves every live attempt of `l` as it is found, and alive -/
def Spares (l l' : List Attempt) : Prop :=
  ∀ b, deadChain l b = false → find l' b = find l b ∧ deadChain l' b = false

theorem Spares.refl (l : List Attempt) : Spares l l := fun _ h => ⟨rfl, h⟩

theorem Spares.trans {l1 l2 l3 : List Attempt} (h1 : Spares l1 l2) (h2 : Spares l2 l3) : Spares l1 l3 := by
  intro b hb
  obtain ⟨f1, d1⟩ := h1 b hb
  obtain ⟨f2, d2⟩ := h2 b d1
  exact ⟨f2.trans f1, d2⟩

theorem spares_map (f : Attempt → Attempt) (l : List Attempt) (hf : KeepsChain f)
    (hd : ∀ x, deadChain l x.id = false → f x = x) : Spares l (l.map f) := by
  intro b hb
  rw [find_map_id f (fun x => (hf x).1), deadChain_map f hf]
  refine ⟨?_, hb⟩
  cases hy : find l b with
  | none => rfl
  | some y =>
    obtain ⟨_, rfl⟩ := find_mem hy
    exact congrArg some (hd y hb)

/-- (`hx`: dead as `deadChain` sees it, from the list below it, so that records with a repeated id do no harm) -/
theorem Spares.cons {x x' : Attempt} {rest rest' : List Attempt} (hid : x'.id = x.id)
    (hx : x' = x ∨ deadChain (x :: rest) x.id = true) (ht : Spares rest rest') : Spares (x :: rest) (x' :: rest') := by
  intro b hb
  rw [find_cons, find_cons, hid]
  by_cases hxb : x.id = b
  · -- `x` is the record of `b`, alive: it is left alone, and its parent is alive in the tail
    subst hxb
    rcases hx with rfl | hx
    · simp only [deadChain, beq_self_eq_true, if_true, Bool.or_eq_false_iff] at hb ⊢
      refine ⟨trivial, hb.1, ?_⟩
      cases hp : x'.parent with
      | none => rfl
      | some pi =>
        simp only [hp] at hb ⊢
        exact (ht _ hb.2).2
    · rw [hx] at hb; cases hb
  · have hne := beq_false_of_ne hxb
    simp only [deadChain, hid, hne, Bool.false_eq_true, if_false] at hb ⊢
    exact ht b hb

theorem markUp_spares (l : List Attempt) (a i : Nat) (own : Bool) (ha : deadChain l a = true) :
    Spares l (markUp false l a i own) := by
  -- the record of `a`, dead by assumption, is marked; the walk goes on to its parent only if that is dead in the rest
  have head : ∀ (x : Attempt) (rest rest' : List Attempt) (a i : Nat) (own : Bool), (x.id == a) = true →
      deadChain (x :: rest) a = true → Spares rest rest' →
      Spares (x :: rest) ((if own = true then markOwn i x else markEnclosing i x) :: rest') := by
    intro x rest rest' a i own h ha ht
    refine Spares.cons ?_ (Or.inr (eq_of_beq h ▸ ha)) ht
    split
    · rfl
    · exact (markEnclosing_keeps i x).ident
  -- the cases of `markUp`: no record; the record of `a`, whose parent is dead in the rest (2), is not (3), or which has
  -- none (4); another record (5)
  fun_induction markUp false l a i own with
  | case1 => exact Spares.refl _
  | case2 x rest a i own h x' p pi hp hg ih => exact head x rest _ a i own h ha (ih (by simpa using hg))
  | case3 x rest a i own h => exact head x rest _ a i own h ha (Spares.refl _)
  | case4 x rest a i own h => exact head x rest _ a i own h ha (Spares.refl _)
  | case5 x rest a i own h ih => exact Spares.cons rfl (Or.inl rfl) (ih (by simpa [deadChain, h] using ha))

theorem bubble_tt_spares (e : Bool) (l : List Attempt) (a i : Nat) (hs : List Handled) (x : Attempt)
    (hf : find l a = some x) (ht : x.terminated = true) :
    Spares l (bubble Quirks.none e l a i (.fail .taskTerminated hs)).atts := by
  -- the walk stops at the first record of `a`: it is terminated, and the repaired protocol fails no such attempt again
  generalize hr : Res.fail .taskTerminated hs = r
  fun_induction bubble Quirks.none e l a i r generalizing hs with
  | case20 y rest a i r h ih =>
    exact Spares.cons rfl (Or.inl rfl) (ih hs (by simpa [find_cons, h] using hf) hr)
  | _ => cases hr <;> simp_all +zetaDelta [Spares, find_cons, deadChain, Quirks.none]

theorem upd_spares (l : List Attempt) (a : Nat) (f : Attempt → Attempt) (hf : KeepsChain f) (ha : deadChain l a = true) :
    Spares l (upd l a f) := by
  refine spares_map _ l (hf.upd a) (fun x hx => ?_)
  split
  · rename_i h
    rw [eq_of_beq h, ha] at hx
    cases hx
  · rfl

theorem cp_spares (s : Proto) (hrun : s.ended = none) : Spares s.atts (checkPending Quirks.none s).1.atts := by
  rw [cp_state]
  simp only [hrun, Option.isSome_none, Bool.false_and, Bool.false_eq_true, if_false]
  -- of a running execution `checkPending` looks into dead attempts only
  refine spares_map _ _ (cpEdit_keepsChain _ s) (fun x hx => cpEdit_other (Bool.eq_false_iff.mpr fun hv => ?_))
  simpa [cpDead_none, hx, hrun] using (cpVisits_iff.mp hv).2.2

theorem finish_tt_spares (s : Proto) (a i : Nat) (x : Attempt) (hrun : s.ended = none) (hx : find s.atts a = some x)
    (ht : x.terminated = true) :
    Spares s.atts (finish Quirks.none s (bubble Quirks.none s.ended.isSome s.atts a i (.fail .taskTerminated []))).1.atts := by
  have hw := bubble_tt_spares s.ended.isSome s.atts a i [] x hx ht
  rw [finish_eq]
  split
  · exact hw.trans (cp_spares (finishState s _) (by simp [finishState, bub_tt.2.1, hrun]))
  · exact hw

/-- property (vi) of C06, for every live attempt at once -/
theorem step_old_attempt (s : Proto) (a i : Nat) (x : Attempt) (inp : Inp) (hrun : s.ended = none)
    (hx : find s.atts a = some x) (ht : x.terminated = true)
    (hinp : (∃ k, inp = .event a i k) ∨ (∃ k, inp = .deferred a i k) ∨ (∃ k, inp = .reply a i k) ∨ inp = .echo a i) :
    Spares s.atts (step Quirks.none s inp).1.atts ∧ ∀ o ∈ (step Quirks.none s inp).2, o.quiet = true := by
  have hda : deadChain s.atts a = true := deadChain_of_found hx ht
  -- an event is dropped by the lookup, which marks the chain of `a` as far up as it is dead and calls `checkPending`
  have via : ∀ k, Spares s.atts (viaLookup Quirks.none s a i k).1.atts ∧
      ∀ o ∈ (viaLookup Quirks.none s a i k).2, o.quiet = true := by
    intro k
    unfold viaLookup
    -- (the first two ways the lookup can go do not arise here; they change nothing, so no argument is needed)
    rcases lookup_cases Quirks.none s a i with h | h | ⟨_, _, _, h⟩ | ⟨_, _, hd, _⟩
    · rw [h.1]; exact ⟨Spares.refl _, List.forall_mem_singleton.mpr rfl⟩
    · rw [h]; exact ⟨Spares.refl _, List.forall_mem_singleton.mpr rfl⟩
    · rw [h]
      refine ⟨?_, List.forall_mem_cons.mpr ⟨rfl, cp_quiet _ _⟩⟩
      have hseen : KeepsChain (fun y => { y with seen := true }) := fun _ => ⟨rfl, rfl, rfl⟩
      have h1 : Spares (seenAtts s a) (marked Quirks.none s a i) := by
        simp only [marked, Quirks.none, Bool.false_eq_true, if_false, hrun, Option.isSome_none]
        exact markUp_spares _ a i true ((deadChain_map _ (hseen.upd a) _ a).trans hda)
      exact ((upd_spares _ a _ hseen hda).trans h1).trans (cp_spares { s with hasMeta := true, atts := _ } hrun)
    · simp [lookupDead, Quirks.none, hda] at hd
  rcases hinp with ⟨k, rfl⟩ | ⟨k, rfl⟩ | ⟨k, rfl⟩ | rfl
  · exact via k
  · exact via k
  · rw [step_reply_terminated _ s a i k x hx ht]
    refine ⟨?_, torn_quiet⟩
    split
    · -- the request is disarmed in the record of `a`, which stays terminated
      have hfa : find (upd s.atts a (setSlot i Slot.disarm)) a = some (setSlot i Slot.disarm x) := by
        unfold upd
        rw [find_map_id _ (fun y => ((setSlot_keepsChain i _).upd a y).1), hx]
        simp [(find_mem hx).2]
      exact (upd_spares _ a _ (setSlot_keepsChain i _) hda).trans (finish_tt_spares { s with atts := _ } a i _ hrun hfa
        ((setSlot_keepsChain i _ x).2.1.trans ht))
    · exact Spares.refl _
  · rw [step_echo _ s a i x hx]
    refine ⟨?_, torn_quiet⟩
    split
    · exact finish_tt_spares s a i x hrun hx ht
    · exact Spares.refl _

theorem deadChain_exists_term (l : List Attempt) (b : Nat) (h : deadChain l b = true) : ∃ y ∈ l, y.terminated = true := by
  fun_induction deadChain l b with
  | case1 => cases h
  | case2 x rest b hxb ih =>
    rcases Bool.or_eq_true_iff.mp h with h | h
    · exact ⟨x, List.mem_cons_self, h⟩
    · split at h
      · exact (ih _ h).imp fun y hy => ⟨List.mem_cons_of_mem _ hy.1, hy.2⟩
      · cases h
  | case3 x rest b hxb ih => exact (ih h).imp fun y hy => ⟨List.mem_cons_of_mem _ hy.1, hy.2⟩

theorem cp_cancels_dead (s : Proto) (hts : TermSeen s.atts) :
    ∀ x ∈ (checkPending Quirks.none s).1.atts, x.seen = true → deadChain (checkPending Quirks.none s).1.atts x.id = true →
      ∀ sl ∈ x.slots, sl.cancellable = false := by
  rcases cp_atts Quirks.none s with h | h
  · rw [h.1]; intro x hx; cases hx
  · rw [h.1]
    intro x' hx' hseen hdead
    obtain ⟨x, hx, rfl⟩ := List.mem_map.mp hx'
    rw [cpAtts, deadChain_map _ (cpEdit_keepsChain _ s), (cpEdit_keepsChain _ s x).1] at hdead
    rw [cpEdit_seen] at hseen
    -- some attempt of the chain is terminated, hence seen: `checkPending` looks into every seen attempt that is dead
    obtain ⟨y, hy, hyt⟩ := deadChain_exists_term _ _ hdead
    have hterm : cpHasTerm s = true := List.any_eq_true.mpr ⟨y, hy, by simp [hyt, hts y hy hyt]⟩
    exact cpEdit_visited (cpVisits_iff.mpr ⟨hseen, hterm, Or.inl hdead⟩)

/-- property (vii) of C06, from any state in which the terminated attempts are seen -/
theorem step_failure_cancels_nested (s : Proto) (inp : Inp) (a : Nat) (e : Err) (hts : TermSeen s.atts)
    (h : Out.failAttempt a e ∈ (step Quirks.none s inp).2) :
    ∀ x ∈ (step Quirks.none s inp).1.atts, x.seen = true → deadChain (step Quirks.none s inp).1.atts x.id = true →
      ∀ sl ∈ x.slots, sl.cancellable = false := by
  obtain ⟨s1, w, r, hw⟩ := step_says Quirks.none s inp _ h rfl
  rw [hw.state, finish_eq, if_pos (hw.says _ h).sweeps]
  exact cp_cancels_dead _ ((hw.edits.atts.trans hw.keeps).forall (fun _ _ k => k.termSeenOK) hts)

end Asl.FanProto
