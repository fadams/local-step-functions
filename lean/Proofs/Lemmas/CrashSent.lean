/-
The crash protocol (AslModel/Crash.lean) with all quirks off, EVERY skeleton (any nesting of fan-outs, batches, child
executions, failure points), crashes anywhere (between handlers and inside them): no request is ever sent twice.  No
operation list of a handler holds a request, except that the delivery / deferred handler of a Task visit puts one first, and
that one is guarded by the durable record `sent`.
-/
import Proofs.Lemmas.CrashBasic
namespace Asl.Crash

def Act.isSend : Act → Bool
  | .pubReq _ => true
  | .pubChild _ _ => true
  | _ => false

def NS (l : List Act) : Prop := ∀ a ∈ l, a.isSend = false

@[simp] theorem NS_nil : NS [] := by intro a h; cases h
@[simp] theorem NS_append {l1 l2 : List Act} : NS (l1 ++ l2) ↔ NS l1 ∧ NS l2 := List.forall_mem_append
@[simp] theorem NS_cons {a : Act} {l : List Act} : NS (a :: l) ↔ a.isSend = false ∧ NS l := by
  simp [NS]
@[simp] theorem NS_map_ackEv (l : List Nat) : NS (l.map Act.ackEv) := by
  intro a ha; obtain ⟨x, _, rfl⟩ := List.mem_map.mp ha; rfl
@[simp] theorem NS_map_ackRp (l : List Nat) : NS (l.map Act.ackRp) := by
  intro a ha; obtain ⟨x, _, rfl⟩ := List.mem_map.mp ha; rfl
@[simp] theorem NS_map_held (l : List (Nat × Nat)) : NS (l.map (fun p => Act.ackEv p.2)) := by
  intro a ha; obtain ⟨x, _, rfl⟩ := List.mem_map.mp ha; rfl
theorem NS_filter {l : List Act} (p : Act → Bool) (h : NS l) : NS (l.filter p) := by
  intro a ha; exact h a (List.mem_filter.mp ha).1
@[simp] theorem NS_ite {p : Prop} [Decidable p] {l1 l2 : List Act} (h1 : NS l1) (h2 : NS l2) : NS (if p then l1 else l2) := by
  split <;> assumption

@[simp] theorem NS_tidy (c : Cfg) (v : Vol) (o : Option Nat) (e : List Nat) : NS (tidy c v o e).1 := by
  simp only [tidy, NS_append]
  exact ⟨⟨NS_map_ackEv _, NS_map_ackEv _⟩, NS_map_ackRp _⟩
@[simp] theorem NS_tidyEnd (c : Cfg) (v : Vol) (o : Option Nat) (e f : List Nat) : NS (tidyEnd c v o e f).1 := by
  simp only [tidyEnd, NS_append]
  exact ⟨⟨NS_map_ackEv _, NS_map_ackEv _⟩, NS_map_ackRp _⟩

theorem NS_launch (f : Frame) (s : Nat) (st : List Frame) (o : Option Nat) : NS (launch f s st o) := by
  intro a ha
  simp only [launch, List.mem_filterMap] at ha
  obtain ⟨i, _, hi⟩ := ha
  split at hi
  · cases hi; rfl
  · cases hi

theorem NS_ackR (rp : Option Nat) : NS (match rp with | some r => [Act.ackRp r] | none => []) := by
  cases rp <;> simp [Act.isSend]

theorem NS_fst {p : List Act × Vol} {acts : List Act} {v' : Vol} (hp : NS p.1) (h : p = (acts, v')) : NS acts := by
  subst h; exact hp

theorem NS_dropEv (q : Quirks) (c : Cfg) (v : Vol) (m : QEv) : NS (dropEv q c v m).1 := by
  fun_cases dropEv q c v m
  -- the attempt is on record: it is tidied up
  case case2 => simpa [Act.isSend] using NS_fst (NS_tidy _ _ _ _) ‹_›
  all_goals simp [Act.isSend]

theorem NS_own (ev : Nat) (acts : List Act) : NS (if acts.contains (Act.ackEv ev) = true then [] else [Act.ackEv ev]) :=
  NS_ite NS_nil (NS_map_ackEv [ev])

theorem NS_early (b : Bool) (rp : Option Nat) :
    NS (if b = true then (match rp with | some r => [Act.ackRp r] | none => []) else []) :=
  NS_ite (NS_ackR rp) NS_nil

theorem NS_release (j : Join) : NS (j.heldEv.map (fun p => Act.ackEv p.2) ++ j.heldRp.map .ackRp) :=
  NS_append.mpr ⟨NS_map_held _, NS_map_ackRp _⟩

theorem isSend_pub (b : Bool) (k : EvKind) (g : List Nat) : (if b = true then Act.pubEv k else Act.pubDead k g).isSend = false := by
  cases b <;> rfl

theorem NS_advance (q : Quirks) (c : Cfg) (fuel ev : Nat) (t : Sk) (stack : List Frame) (owner rp : Option Nat) (v : Vol) :
    NS (advance q c fuel ev t stack owner rp v).1 := by
  fun_induction advance q c fuel ev t stack owner rp v
  -- The arms of `advance` in order.  1: no fuel.  2–4: a failure (absorbed by an attempt that is over, handled by an enclosing
  -- fan-out state, failing the execution).  5–7: the end of a top-level execution; 8–12: of a child execution.  13–20: the end of
  -- a branch (13: its attempt is over; 14–18: it completes its join; 19, 20: it does not).  21: the next visit.
  all_goals simp only [NS_append, NS_cons, NS_nil, Act.isSend, true_and, and_true]
  case case2 => exact ⟨⟨NS_fst (NS_tidy _ _ _ _) ‹_›, NS_own _ _⟩, NS_ackR _⟩
  case case3 => exact ⟨⟨⟨isSend_pub _ _ _, NS_fst (NS_tidy _ _ _ _) ‹_›⟩, NS_own _ _⟩, NS_ackR _⟩
  case case4 ih =>
    -- the notification, or the answer to the parent, whose own `advance` sends nothing (`ih`)
    refine ⟨⟨⟨?_, NS_fst (NS_tidyEnd _ _ _ _ _) ‹_›⟩, NS_own _ _⟩, NS_ackR _⟩
    simp +zetaDelta only []
    repeat' split
    all_goals simp [Act.isSend, ih]
  case case5 => exact ⟨NS_fst (NS_tidyEnd _ _ _ _ _) ‹_›, NS_ackR _⟩
  case case6 => exact ⟨NS_map_ackEv _, NS_ackR _⟩
  case case8 ih => exact ⟨NS_fst ih ‹_›, NS_ackR _⟩
  case case13 => exact ⟨⟨NS_fst (NS_tidy _ _ _ _) ‹_›, NS_own _ _⟩, NS_ackR _⟩
  case case14 ih => exact ⟨⟨NS_filter _ (NS_fst ih ‹_›), NS_release _⟩, NS_early _ _⟩
  case case15 ih => exact ⟨NS_fst ih ‹_›, NS_early _ _⟩
  case case16 ih => exact ⟨⟨NS_filter _ (NS_fst ih ‹_›), NS_release _⟩, NS_early _ _⟩
  case case17 ih => exact ⟨⟨NS_filter _ (NS_fst ih ‹_›), NS_release _⟩, NS_early _ _⟩
  case case18 => exact ⟨NS_release _, NS_early _ _⟩
  case case19 => exact NS_early _ _
  case case20 => exact NS_early _ _
  all_goals exact NS_ackR _

def sends : List Act → List Nat
  | [] => []
  | .pubReq id :: l => id :: sends l
  | .pubChild id _ :: l => id :: sends l
  | _ :: l => sends l

theorem sends_append (l1 l2 : List Act) : sends (l1 ++ l2) = sends l1 ++ sends l2 := by
  fun_induction sends l1 <;> simp [sends, *]

theorem sends_of_NS {l : List Act} (h : NS l) : sends l = [] := by
  fun_induction sends l with
  | case1 => rfl
  | case2 | case3 => cases (NS_cons.mp h).1
  | case4 l a _ _ ih => exact ih (NS_cons.mp h).2

theorem sends_take_sublist (k : Nat) (l : List Act) : (sends (l.take k)).Sublist (sends l) := by
  fun_induction sends l generalizing k <;> cases k <;> simp [sends, *]

theorem foldl_sent (acts : List Act) (c : Cfg) : (acts.foldl Cfg.act c).sent = c.sent ++ sends acts := by
  induction acts generalizing c with
  | nil => simp [sends]
  | cons a l ih =>
    rw [List.foldl_cons, ih]
    cases a with
    | pubReq id | pubChild id sub => simp [Cfg.act, sends]
    | note b => cases b <;> rfl
    | _ => rfl

theorem handler_sent_nodup (c : Cfg) (acts : List Act) (v : Vol) (cut : Option Nat) (h : (c.sent ++ sends acts).Nodup) :
    (c.handler acts v cut).sent.Nodup := by
  cases cut with
  | none =>
    show (acts.foldl Cfg.act c).sent.Nodup
    rw [foldl_sent]; exact h
  | some k =>
    show ((acts.take k).foldl Cfg.act c).sent.Nodup
    rw [foldl_sent]
    exact List.Nodup.sublist (List.Sublist.append_left (sends_take_sublist k acts) _) h

theorem sends_requestOf (id : Nat) (t : Sk) : sends (requestOf id t) = [id] := by
  cases t <;> rfl

theorem nodup_ns {c : Cfg} {acts : List Act} (hnd : c.sent.Nodup) (h : NS acts) : (c.sent ++ sends acts).Nodup := by
  rw [sends_of_NS h, List.append_nil]; exact hnd

theorem nodup_send {s : List Nat} {pre : List Act} (id : Nat) (t : Sk) (hnd : s.Nodup) (h : NS pre) :
    (s ++ sends ((if s.contains id then [] else requestOf id t) ++ pre)).Nodup := by
  rw [sends_append, sends_of_NS h, List.append_nil]
  split
  · simpa [sends] using hnd
  · rename_i hc
    rw [sends_requestOf]
    exact nodup_concat hnd (by simpa using hc)

theorem NS_of_advance {q : Quirks} {c : Cfg} {fuel ev : Nat} {t : Sk} {stack : List Frame} {owner rp : Option Nat} {v : Vol}
    {acts : List Act} {v' : Vol} (h : advance q c fuel ev t stack owner rp v = (acts, v')) : NS acts :=
  NS_fst (NS_advance q c fuel ev t stack owner rp v) h

theorem NS_onReply {q : Quirks} {c : Cfg} {corr : Nat} {v : Vol} {acts : List Act} {v' : Vol}
    (h : onReply q c corr v = some (acts, v')) : NS acts := by
  revert h
  fun_cases onReply q c corr v
  -- the arms that return something: the reply answers a Task visit
  case case1 | case2 => exact fun h => NS_of_advance (Option.some.inj h)
  all_goals nofun

def NodupSent (o : Option Cfg) : Prop := ∀ c', o = some c' → c'.sent.Nodup
@[simp] theorem NodupSent_none : NodupSent none := by intro c' h; cases h
@[simp] theorem NodupSent_some (c : Cfg) : NodupSent (some c) ↔ c.sent.Nodup :=
  ⟨fun h => h c rfl, fun h _ hc => Option.some.inj hc ▸ h⟩

theorem NS_pre (start : Bool) (owner : Option Nat) :
    NS (if start then [if owner.isSome then Act.cnote false else Act.note false] else []) := by
  cases start <;> cases owner <;> simp [Act.isSend]

theorem step_nodupSent (c : Cfg) (op : Op) (cut : Option Nat) (hnd : c.sent.Nodup) : NodupSent (step Quirks.none c op cut) := by
  have quiet : ∀ {c1 : Cfg} {acts : List Act} {v : Vol}, c1.sent = c.sent → NS acts → NodupSent (some (c1.handler acts v cut)) :=
    fun hs h => (NodupSent_some _).mpr (handler_sent_nodup _ _ _ _ (nodup_ns (hs ▸ hnd) h))
  fun_cases step Quirks.none c op cut
  -- The arms of `step` in order: diverged (1), `.crash` (2), `.ev` (3–12), `.tm` not armed (13–17) and armed (18–27), `.rp` (28–31),
  -- `.tick` (32–34).  First those that are not enabled,
  case case3 | case13 | case15 | case17 | case18 | case19 | case27 | case28 | case30 | case34 => exact NodupSent_none
  -- those that leave the configuration as it is (11: it diverges now),
  case case1 | case2 | case11 => exact (NodupSent_some _).mpr hnd
  -- then the handlers that send nothing: an event is dropped,
  case case4 | case20 => exact quiet rfl (NS_dropEv _ _ _ _)
  -- only the engine's memory changes,
  case case5 | case14 | case16 | case31 | case32 => exact quiet rfl NS_nil
  -- the delivery arms a timer
  case case6 | case8 | case9 => exact quiet rfl (NS_pre _ _)
  -- or finishes the visit,
  case case10 | case12 => exact quiet rfl (NS_append.mpr ⟨NS_pre _ _, NS_of_advance ‹_›⟩)
  -- branches are launched,
  case case21 | case26 => exact quiet rfl (NS_append.mpr ⟨NS_launch _ _ _ _, NS_map_ackEv [_]⟩)
  -- the deferred handler finishes the visit,
  case case24 | case25 => exact quiet rfl (NS_of_advance ‹_›)
  -- a reply is handled;
  case case29 | case33 => exact quiet rfl (NS_onReply ‹_›)
  -- last a Task visit: the request comes first, unless it is on record
  case case7 => exact (NodupSent_some _).mpr (handler_sent_nodup _ _ _ _ (nodup_send _ _ hnd (NS_pre _ _)))
  case case22 | case23 =>
    refine (NodupSent_some _).mpr (handler_sent_nodup _ _ _ _ ?_)
    simp +zetaDelta only [Quirks.none, Bool.false_eq_true, if_false]
    simpa using nodup_send (pre := []) _ _ hnd NS_nil

theorem step_sent_nodup {c : Cfg} {op : Op} {cut : Option Nat} {c' : Cfg}
    (h : step Quirks.none c op cut = some c') (hnd : c.sent.Nodup) : c'.sent.Nodup :=
  step_nodupSent c op cut hnd c' h

theorem run_sent_nodup (sched : Sched) (c c' : Cfg) (h : run Quirks.none c sched = some c') (hnd : c.sent.Nodup) :
    c'.sent.Nodup :=
  run_keeps Quirks.none (I := fun c => c.sent.Nodup) sched c c' (fun _ _ _ _ hnd hs => step_sent_nodup hs hnd) hnd h

theorem drain_sent_nodup (fuel : Nat) (c : Cfg) (hnd : c.sent.Nodup) : (drain Quirks.none fuel c).sent.Nodup :=
  drain_keeps Quirks.none (I := fun c => c.sent.Nodup) (fun _ _ _ hnd hs => step_sent_nodup hs hnd) fuel c hnd

theorem sent_count_le_one (l : List Nat) (x : Nat) (h : l.Nodup) : count l x ≤ 1 := by
  rw [count, ← List.count_eq_length_filter]
  exact List.nodup_iff_count.mp h x

theorem resent_nil_of_nodup (c : Cfg) (h : c.sent.Nodup) : (observe c).resent = [] := by
  simp only [observe, List.filter_eq_nil_iff]
  intro x _
  have := sent_count_le_one c.sent x h
  simp only [decide_eq_true_eq]; omega

end Asl.Crash
