/-
Helper lemmas for C16: the JSON text of the padding documents, the name window, the history
counter.
-/
import AslModel.Quota
namespace Asl.Quota
open Asl

theorem escChar_a : escChar 'a' = ['a'] := by decide

theorem padChars_succ (n : Nat) : padChars (n + 1) = 'a' :: padChars n := rfl

theorem padChars_length (n : Nat) : (padChars n).length = n := by
  simp [padChars]

theorem escBody_padChars (n : Nat) : escBody (padChars n) = padChars n := by
  induction n with
  | zero => rfl
  | succ k ih => rw [padChars_succ, escBody, ih, escChar_a]; rfl

theorem quote_length (s : Str) : (quote s).length = (escBody s).length + 2 := by
  simp [quote]

theorem render_padStr_length (n : Nat) : (render (padStr n)).length = n + 2 := by
  rw [padStr, render, quote_length, escBody_padChars, padChars_length]

theorem quote_p : quote "p".toList = ['"', 'p', '"'] := by decide

theorem ite_verdict_iff (b : Bool) (e : Str) :
    (if b = true then Verdict.accepted else Verdict.refused e) = Verdict.accepted ↔ b = true := by
  cases b <;> simp

theorem ite_verdict_refused (b : Bool) (e : Str) (h : b = false) :
    (if b = true then Verdict.accepted else Verdict.refused e) = Verdict.refused e := by
  subst h; simp

theorem validName_iff (s : Str) : validName s = true ↔
    1 ≤ s.length ∧ s.length ≤ 80 ∧ ∀ c ∈ s, c ∉ forbiddenNameChars := by
  simp [validName, maxNameLength, nameCharOk]
  constructor
  · rintro ⟨⟨a, b⟩, c⟩; exact ⟨a, of_decide_eq_true b, c⟩
  · rintro ⟨a, b, c⟩; exact ⟨⟨a, decide_eq_true b⟩, c⟩

theorem range_window (m n : Nat) :
    (List.range' 1 m).contains n = (decide (0 < n) && decide (n ≤ m)) := by
  rw [Bool.eq_iff_iff]
  simp only [List.contains_iff_mem, List.mem_range'_1, Bool.and_eq_true, decide_eq_true_eq]
  omega

theorem pass_failed_iff (h e a : Nat) :
    (pass h e a).failed = true ↔ Generated.maxExecutionHistoryLength < h + e := by
  unfold pass
  split <;> simp_all

theorem pass_len_failed (h e a : Nat) (hf : (pass h e a).failed = true) :
    (pass h e a).len = h + e + closingEvents := by
  unfold pass at hf ⊢
  split <;> simp_all

theorem pass_len_ok (h e a : Nat) (hf : (pass h e a).failed = false) :
    (pass h e a).len = h + e + a ∧ h + e ≤ Generated.maxExecutionHistoryLength := by
  unfold pass at hf ⊢
  split <;> simp_all

theorem runPasses_bound (K h : Nat) (ps : List (Nat × Nat))
    (hk : ∀ p ∈ ps, p.1 ≤ 1 ∧ p.2 ≤ K) (hh : h ≤ Generated.maxExecutionHistoryLength + K) :
    ((runPasses h ps).failed = false →
      (runPasses h ps).len ≤ Generated.maxExecutionHistoryLength + K) ∧
    (runPasses h ps).len ≤ Generated.maxExecutionHistoryLength + K + 1 + closingEvents := by
  fun_induction runPasses h ps with
  | case1 h => exact ⟨fun _ => hh, by simp only; omega⟩
  | case2 h p rest hf =>
    -- the failing pass: `h` and its entry (at most one event), then the closing events
    have hlen := pass_len_failed h p.1 p.2 hf
    have hp := hk p (by simp)
    exact ⟨fun h' => by simp [hf] at h', by omega⟩
  | case3 h p rest hf ih =>
    -- a pass that is not failed found at most the limit with its entry, and adds at most `K` after it
    obtain ⟨hl, hle⟩ := pass_len_ok h p.1 p.2 (by simpa using hf)
    have hp := hk p (by simp)
    exact ih (fun q hq => hk q (by simp [hq])) (by omega)

/-- the last check of a run that was not failed saw `h`, one event or more for each earlier pass, and
its own entry of at least `e₀` -/
theorem runPasses_running (e₀ h : Nat) (ps : List (Nat × Nat))
    (hpos : ∀ p ∈ ps, e₀ ≤ p.1 ∧ 1 ≤ p.1 + p.2) (hne : ps ≠ []) (hrun : (runPasses h ps).failed = false) :
    h + (ps.length - 1) + e₀ ≤ Generated.maxExecutionHistoryLength := by
  fun_induction runPasses h ps with
  | case1 h => exact absurd rfl hne
  | case2 h p rest hf => simp [hf] at hrun
  | case3 h p rest hf ih =>
    obtain ⟨hl, hle⟩ := pass_len_ok h p.1 p.2 (by simpa using hf)
    have hp := hpos p (by simp)
    cases rest with
    | nil => simp; omega
    | cons q rest' =>
      have := ih (fun r hr => hpos r (by simp [hr])) (by simp) hrun
      simp at this ⊢
      omega

theorem runPasses_fails (e₀ h : Nat) (ps : List (Nat × Nat)) (hpos : ∀ p ∈ ps, e₀ ≤ p.1 ∧ 1 ≤ p.1 + p.2) (hne : ps ≠ [])
    (hlen : Generated.maxExecutionHistoryLength < h + (ps.length - 1) + e₀) : (runPasses h ps).failed = true := by
  cases hf : (runPasses h ps).failed with
  | true => rfl
  | false =>
    have := runPasses_running e₀ h ps hpos hne hf
    omega

theorem runPasses_failed_over (h : Nat) (ps : List (Nat × Nat)) (hf : (runPasses h ps).failed = true) :
    Generated.maxExecutionHistoryLength < (runPasses h ps).len := by
  fun_induction runPasses h ps with
  | case1 h => cases hf
  | case2 h p rest hp =>
    have hlen := pass_len_failed h p.1 p.2 hp
    have hover := (pass_failed_iff h p.1 p.2).mp hp
    omega
  | case3 h p rest hp ih => exact ih hf

theorem visit_eq_pass (h a : Nat) : visit h a = pass h 1 a := rfl

theorem runHistory_eq_runPasses (h : Nat) (adds : List Nat) :
    runHistory h adds = runPasses h (adds.map (fun a => (1, a))) := by
  induction adds generalizing h with
  | nil => rfl
  | cons a rest ih =>
    simp only [runHistory, List.map_cons, runPasses, visit_eq_pass]
    rw [ih]
    by_cases hc : (pass h 1 a).failed = true <;> simp [hc]

theorem visit_failed_iff (h a : Nat) :
    (visit h a).failed = true ↔ Generated.maxExecutionHistoryLength < h + 1 :=
  pass_failed_iff h 1 a

end Asl.Quota
