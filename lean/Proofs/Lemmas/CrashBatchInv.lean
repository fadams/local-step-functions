/-
Map states with batches, continued: what the shape of the event queue needs to know about the durable record `batches` and the
re-entry events (`BShape`), the liveness fact about the join in memory (`BJoin`), that both survive the steps of the protocol,
and what they are for: a queue without a re-entry event all of whose branch events are held has a complete join
(`batched_quiet_complete`, the step of `pquiet`).

`PInv` (CrashFlat.lean) has neither.  For batches below the item count it takes: re-entry events admitted by `flatKind` /
`Sk.flat` / `Frame.wf` (any `mc`) and exempted by `Shape.top`; `BShape`, `BJoin` as fields of `PInv` / `Mid`, kept by every
handler lemma of `CrashFlat*.lean` through the lemmas here; `unl` / `bat` inside `restT` / `restW` (16 units per branch in
`brVisits` for the re-entry event's own handlers); `fin_hold` with the publication, the delivery and the deferred handler of a
re-entry event (`flat_launch` for a later batch); `complete_of` with "no re-entry event is queued".
-/
import Proofs.Lemmas.CrashFlat
import Proofs.Lemmas.CrashBatch
namespace Asl.Crash

/-- `p` is the event of a branch of the fan-out attempt with frame `f` -/
abbrev brEv (p : Nat × EvKind) (f : Frame) : Prop := evStack p.2 = [f]

structure BShape (c : Cfg) : Prop where
  /-- the batch-mates of a launched slot are launched -/
  bcover : ∀ p ∈ evK c, ∀ f, brEv p f → ∀ i, i < f.width → i / f.mc = f.idx / f.mc → ∃ p' ∈ evK c, ∃ f', brEv p' f' ∧ f'.idx = i
  /-- slot 0 is launched -/
  zero : ∀ p ∈ evK c, ∀ f, brEv p f → ∃ p' ∈ evK c, ∃ f', brEv p' f' ∧ f'.idx = 0
  samemc : ∀ p1 ∈ evK c, ∀ p2 ∈ evK c, ∀ f1 f2, brEv p1 f1 → brEv p2 f2 → f1.mc = f2.mc
  /-- a queued re-entry event belongs to the attempt, is on record, and every launched slot is below its batch -/
  re : ∀ p ∈ evK c, ∀ f s st o, p.2 = .reenter f s st o →
    (∃ p0 ∈ evK c, ∃ f0, brEv p0 f0 ∧ f0.idx = 0) ∧ (f.jid, s) ∈ c.batches ∧
    ∀ p2 ∈ evK c, ∀ f2, brEv p2 f2 → f.jid = f2.jid ∧ f.branches = f2.branches ∧ f.rest = f2.rest ∧ f.mc = f2.mc ∧ f2.idx < s
  /-- a batch on record has its re-entry event queued, or is launched -/
  rb : ∀ p ∈ evK c, ∀ f, brEv p f → ∀ s, (f.jid, s) ∈ c.batches →
    (∃ p' ∈ evK c, ∃ f' st o, p'.2 = .reenter f' s st o) ∨ (∃ p' ∈ evK c, ∃ f', brEv p' f' ∧ f'.idx = s)
  /-- a slot beyond the first batch is launched only when its batch is on record -/
  imax : ∀ p ∈ evK c, ∀ f, brEv p f → f.idx / f.mc ≠ 0 → (f.jid, f.idx / f.mc * f.mc) ∈ c.batches
  /-- the record is closed downwards -/
  down : ∀ p ∈ evK c, ∀ f, brEv p f → ∀ s s', (f.jid, s) ∈ c.batches → 0 < s' → s' ≤ s → s' % f.mc = 0 → (f.jid, s') ∈ c.batches
  bmult : ∀ p ∈ evK c, ∀ f, brEv p f → ∀ s, (f.jid, s) ∈ c.batches → 0 < s ∧ s % f.mc = 0 ∧ s < f.width
  bjlt : ∀ b ∈ c.batches, b.1 < c.nextJ
  /-- at most one re-entry event is queued -/
  reone : ∀ p1 ∈ evK c, ∀ p2 ∈ evK c, ∀ f1 s1 st1 o1 f2 s2 st2 o2, p1.2 = .reenter f1 s1 st1 o1 → p2.2 = .reenter f2 s2 st2 o2 →
    p1 = p2

/-- the liveness fact: a batch that is full in the join in memory, with a successor, has the successor on record -/
structure BJoin (c : Cfg) : Prop where
  bdone : ∀ j ∈ c.joins, ∀ p ∈ evK c, ∀ f, brEv p f → 0 < f.mc → ∀ k, (k + 1) * f.mc < f.width →
    (∀ i, i < f.width → i / f.mc = k → i ∈ j.filled) → (f.jid, (k + 1) * f.mc) ∈ c.batches

abbrev launched (c : Cfg) (i : Nat) : Prop := ∃ p ∈ evK c, ∃ f, brEv p f ∧ f.idx = i

theorem launched.mono {c d : Cfg} {i : Nat} (h : launched c i)
    (hsub : ∀ p ∈ evK c, ∀ g, brEv p g → ∃ p' ∈ evK d, brEv p' g) : launched d i :=
  let ⟨p, hp, g, hg, hi⟩ := h
  let ⟨p', hp', hg'⟩ := hsub p hp g hg
  ⟨p', hp', g, hg', hi⟩

theorem Frame.eq_slot {f g : Frame} (h1 : f.jid = g.jid) (h2 : f.branches = g.branches) (h3 : f.rest = g.rest) (h4 : f.mc = g.mc) :
    ∃ i, g = { f with idx := i } := by
  cases g; cases f; cases h1; cases h2; cases h3; cases h4
  exact ⟨_, rfl⟩

theorem BShape.frame {c : Cfg} (hS : Shape c) (hB : BShape c) {x p : Nat × EvKind} {f g : Frame} (hx : x ∈ evK c) (hf : brEv x f)
    (hp : p ∈ evK c) (hg : brEv p g) : ∃ i, g = { f with idx := i } :=
  let ⟨h1, h2, h3, _⟩ := hS.same x hx p hp f g hf hg
  Frame.eq_slot h1 h2 h3 (hB.samemc x hx p hp f g hf hg)

theorem BShape.congr {c d : Cfg} (h : BShape c) (h1 : evK d = evK c) (h2 : d.batches = c.batches) (h3 : d.nextJ = c.nextJ) :
    BShape d :=
  { bcover := h1 ▸ h.bcover
    zero := h1 ▸ h.zero
    samemc := h1 ▸ h.samemc
    re := h1 ▸ h2 ▸ h.re
    rb := h1 ▸ h2 ▸ h.rb
    imax := h1 ▸ h2 ▸ h.imax
    down := h1 ▸ h2 ▸ h.down
    bmult := h1 ▸ h2 ▸ h.bmult
    bjlt := h2 ▸ h3 ▸ h.bjlt
    reone := h1 ▸ h.reone }

theorem BJoin.congr {c d : Cfg} (h : BJoin c) (h1 : evK d = evK c) (h2 : d.batches = c.batches) (h3 : d.joins = c.joins) :
    BJoin d :=
  ⟨h1 ▸ h2 ▸ h3 ▸ h.bdone⟩

theorem BJoin.nil {c : Cfg} (h : c.joins = []) : BJoin c := by
  constructor
  intro j hj; rw [h] at hj; cases hj

theorem BJoin.crash (c : Cfg) : BJoin c.crash := BJoin.nil rfl

/-- **No event waits, no re-entry event is queued, every branch event is held ⇒ the join is complete.** -/
theorem batched_quiet_complete {c : Cfg} (hS : Shape c) (hB : BShape c) (hJ : BJoin c) {j : Join} (hj : j ∈ c.joins)
    {p0 : Nat × EvKind} {f0 : Frame} (hp0 : p0 ∈ evK c) (hf0 : brEv p0 f0) (hmc : 0 < f0.mc)
    (hnore : ∀ p ∈ evK c, ∀ f s st o, p.2 ≠ .reenter f s st o)
    (hheld : ∀ p ∈ evK c, ∀ f, brEv p f → f.idx ∈ j.filled) :
    f0.width ≤ j.filled.length := by
  have hall := all_slots_launched hmc (launched c) (· ∈ j.filled) (fun s => (f0.jid, s) ∈ c.batches) (w := f0.width)
    (hB.zero p0 hp0 f0 hf0)
    (by
      rintro i i' ⟨p, hp, f, hf, rfl⟩ hi' hb
      obtain ⟨_, rfl⟩ := hB.frame hS hp0 hf0 hp hf
      exact hB.bcover p hp _ hf i' hi' hb)
    (fun s hs => (hB.rb p0 hp0 f0 hf0 s hs).resolve_left fun ⟨p', hp', f', st, o, hk⟩ => hnore p' hp' f' s st o hk)
    (fun k hk hfull => hJ.bdone j hj p0 hp0 f0 hf0 hmc k hk hfull)
    (by rintro i ⟨p, hp, f, hf, rfl⟩; exact hheld p hp f hf)
  apply length_ge_of_full
  intro i hi
  obtain ⟨p, hp, f, hf, rfl⟩ := hall i hi
  exact hheld p hp f hf

/-- **`BShape` survives the publication of the re-entry event** by the branch event `x` (slot `f.idx`) whose end completes its
batch: the next batch exists and is not on record -/
theorem BShape.publish {c d : Cfg} (hS : Shape c) (hB : BShape c) {x : Nat × EvKind} {f : Frame} (hx : x ∈ evK c)
    (hxf : brEv x f) (hmc : 0 < f.mc) (hnext : nextStart f < f.width) (hrec : (f.jid, nextStart f) ∉ c.batches)
    (hev : evK d = evK c ++ [(c.nextId, .reenter f (nextStart f) [] none)])
    (hb : d.batches = c.batches ++ [(f.jid, nextStart f)]) (hn : d.nextJ = c.nextJ) : BShape d := by
  have hmem : ∀ p, p ∈ evK d ↔ p ∈ evK c ∨ p = (c.nextId, .reenter f (nextStart f) [] none) := by simp [hev]
  have hbm : ∀ b, b ∈ d.batches ↔ b ∈ c.batches ∨ b = (f.jid, nextStart f) := by simp [hb]
  have old : ∀ {i}, launched c i → launched d i := fun h => h.mono fun p hp g hg => ⟨p, (hmem p).mpr (.inl hp), hg⟩
  -- the branch events are those of `c`; their frames are `f` but for the slot
  have hbr : ∀ p ∈ evK d, ∀ g, brEv p g → p ∈ evK c ∧ ∃ i, g = { f with idx := i } := by
    intro p hp g hg
    rcases (hmem p).mp hp with h | rfl
    · exact ⟨h, hB.frame hS hx hxf h hg⟩
    · cases hg
  -- every launched slot is below the new batch: its batch would be on record, and with it the one that is published now
  have hbelow : ∀ p ∈ evK c, ∀ i, brEv p { f with idx := i } → i < nextStart f := by
    intro p hp i hg
    apply Classical.byContradiction
    intro hge
    obtain ⟨h1, h2⟩ := batch_ge hmc (Nat.le_of_not_lt hge)
    have hne : i / f.mc ≠ 0 := Nat.ne_of_gt (Nat.lt_of_lt_of_le (Nat.succ_pos _) h1)
    have hin : (f.jid, i / f.mc * f.mc) ∈ c.batches := hB.imax p hp _ hg hne
    exact hrec (hB.down p hp _ hg _ (nextStart f) hin (nextStart_pos hmc) h2 nextStart_mod)
  -- no re-entry event was queued: its batch would be on record, and with it the one that is published now
  have hnone : ∀ p ∈ evK c, ∀ g s st o, p.2 ≠ .reenter g s st o := by
    intro p hp g s st o hk
    obtain ⟨_, hin, hall⟩ := hB.re p hp g s st o hk
    obtain ⟨hj, _, _, _, hlt⟩ := hall x hx f hxf
    have hle := next_le hmc (hB.bmult x hx f hxf s (hj ▸ hin)).2.1 hlt
    exact hrec (hB.down x hx f hxf s (nextStart f) (hj ▸ hin) (nextStart_pos hmc) hle nextStart_mod)
  have hre : ∀ p ∈ evK d, ∀ g s st o, p.2 = .reenter g s st o → p = (c.nextId, .reenter f (nextStart f) [] none) :=
    fun p hp g s st o hk => ((hmem p).mp hp).elim (fun h => absurd hk (hnone p h g s st o)) id
  exact
    { bcover := fun p hp g hg i hi hb' => old (hB.bcover p (hbr p hp g hg).1 g hg i hi hb')
      zero := fun p hp g hg => old (hB.zero p (hbr p hp g hg).1 g hg)
      samemc := fun p1 hp1 p2 hp2 g1 g2 hg1 hg2 => hB.samemc p1 (hbr p1 hp1 g1 hg1).1 p2 (hbr p2 hp2 g2 hg2).1 g1 g2 hg1 hg2
      re := fun p hp g s st o hk => by
        cases hre p hp g s st o hk
        cases hk
        refine ⟨old (hB.zero x hx f hxf), (hbm _).mpr (.inr rfl), fun p2 hp2 g2 hg2 => ?_⟩
        obtain ⟨hp2c, i, rfl⟩ := hbr p2 hp2 g2 hg2
        exact ⟨rfl, rfl, rfl, rfl, hbelow p2 hp2c i hg2⟩
      rb := fun p hp g hg s hs => by
        obtain ⟨hpc, i, rfl⟩ := hbr p hp g hg
        rcases (hbm _).mp hs with hs | hs
        · exact (hB.rb p hpc _ hg s hs).imp (fun ⟨p', hp', h⟩ => ⟨p', (hmem p').mpr (.inl hp'), h⟩) old
        · cases hs
          exact .inl ⟨_, (hmem _).mpr (.inr rfl), f, [], none, rfl⟩
      imax := fun p hp g hg hne => (hbm _).mpr (.inl (hB.imax p (hbr p hp g hg).1 g hg hne))
      down := fun p hp g hg s s' hs hs0 hle hmod => by
        obtain ⟨hpc, i, rfl⟩ := hbr p hp g hg
        rcases (hbm _).mp hs with hs | hs
        · exact (hbm _).mpr (.inl (hB.down p hpc _ hg s s' hs hs0 hle hmod))
        · cases hs
          -- a batch start below the new one is at most the start of the batch of `x`, which is on record
          rcases Nat.eq_or_lt_of_le hle with rfl | hlt
          · exact (hbm _).mpr (.inr rfl)
          · have hle' := mult_le hmc hmod hlt
            have hin := hB.imax x hx f hxf (fun h0 => by rw [h0, Nat.zero_mul] at hle'; omega)
            exact (hbm _).mpr (.inl (hB.down x hx f hxf _ s' hin hs0 hle' hmod))
      bmult := fun p hp g hg s hs => by
        obtain ⟨hpc, i, rfl⟩ := hbr p hp g hg
        rcases (hbm _).mp hs with hs | hs
        · exact hB.bmult p hpc _ hg s hs
        · cases hs
          exact ⟨nextStart_pos hmc, nextStart_mod, hnext⟩
      bjlt := fun b hb' => hn ▸ ((hbm _).mp hb').elim (hB.bjlt b) (fun e => e ▸ hS.jlt x hx f hxf)
      reone := fun p1 hp1 p2 hp2 f1 s1 st1 o1 f2 s2 st2 o2 h1 h2 =>
        (hre p1 hp1 f1 s1 st1 o1 h1).trans (hre p2 hp2 f2 s2 st2 o2 h2).symm }

/-- the join in memory stays, the record grows, every branch event has the frame data of a branch event there was -/
theorem BJoin.mono {c d : Cfg} (h : BJoin c) (hj : d.joins = c.joins) (hb : ∀ b ∈ c.batches, b ∈ d.batches)
    (hev : ∀ p ∈ evK d, ∀ g, brEv p g → ∃ p' ∈ evK c, ∃ g', brEv p' g' ∧ g'.jid = g.jid ∧ g'.mc = g.mc ∧ g'.width = g.width) :
    BJoin d := by
  constructor
  intro j hjm p hp g hg hmc k hk hfull
  obtain ⟨p', hp', g', hg', h1, h2, h3⟩ := hev p hp g hg
  rw [hj] at hjm
  have := h.bdone j hjm p' hp' g' hg' (h2 ▸ hmc) k (by rw [h2, h3]; exact hk) (by rw [h2, h3]; exact hfull)
  rw [h1, h2] at this
  exact hb _ this

/-- **the end of a branch** (slot `f.idx` of the join is filled; the join is not complete): the liveness fact holds again — for
the batch of the slot because the re-entry event is published, or was (`hdone`: what `advance_hold_publish` /
`advance_hold_quiet` leave), for the other batches because nothing changed -/
theorem BJoin.hold {c d : Cfg} (hS : Shape c) (hB : BShape c) (hJ : BJoin c) (hone : ∀ j ∈ c.joins, c.joins = [j])
    {x : Nat × EvKind} {f : Frame} (hx : x ∈ evK c) (hxf : brEv x f) (hmc : 0 < f.mc)
    (hevbr : ∀ p ∈ evK d, ∀ g, brEv p g → p ∈ evK c) (hb : ∀ b ∈ c.batches, b ∈ d.batches)
    {j' : Join} (hjs : d.joins = [j']) (hfill : ∀ i ∈ j'.filled, i = f.idx ∨ ∃ j ∈ c.joins, i ∈ j.filled)
    (hdone : batchFull f j'.filled → nextStart f < f.width → (f.jid, nextStart f) ∈ d.batches) : BJoin d := by
  constructor
  intro j0 hj0 p hp g hg hgmc k hk hfull
  cases List.mem_singleton.mp (hjs ▸ hj0)
  have hpc := hevbr p hp g hg
  obtain ⟨_, rfl⟩ := hB.frame hS hx hxf hpc hg
  change (k + 1) * f.mc < f.width at hk
  change (f.jid, (k + 1) * f.mc) ∈ d.batches
  by_cases hkk : k = f.idx / f.mc
  · subst hkk
    rw [← nextStart_eq] at hk ⊢
    exact hdone hfull hk
  · -- the slots of batch `k` were filled before, in the one join there was
    have hold : ∀ i, i < f.width → i / f.mc = k → ∃ j ∈ c.joins, i ∈ j.filled := fun i hi hik =>
      (hfill i (hfull i hi hik)).resolve_left fun e => hkk (e ▸ hik).symm
    have hkw : k * f.mc < f.width := Nat.lt_of_le_of_lt (Nat.mul_le_mul_right _ (Nat.le_succ k)) hk
    obtain ⟨j, hj, -⟩ := hold (k * f.mc) hkw (Nat.mul_div_cancel k hmc)
    refine hb _ (hJ.bdone j hj p hpc _ hg hgmc k hk fun i hi hik => ?_)
    obtain ⟨j2, hj2, hi2⟩ := hold i hi hik
    cases List.mem_singleton.mp (hone j hj ▸ hj2)
    exact hi2

/-- **`BShape` survives the launch of a batch**: the re-entry event `r` (for the batch that starts at `s`) is acknowledged, the
slots of the batch get their events (`news`) -/
theorem BShape.launch {c d : Cfg} (hS : Shape c) (hB : BShape c) {r : Nat × EvKind} {f : Frame} {s : Nat} (hr : r ∈ evK c)
    (hrk : r.2 = .reenter f s [] none) (hmc : 0 < f.mc) (news : List (Nat × EvKind))
    (hnews : ∀ p ∈ news, ∃ i, i < f.width ∧ i / f.mc = s / f.mc ∧ ∃ t, p.2 = .visit t [{ f with idx := i }] false none)
    (hcov : ∀ i, i < f.width → i / f.mc = s / f.mc → ∃ p ∈ news, ∃ t, p.2 = .visit t [{ f with idx := i }] false none)
    (hmem : ∀ p, p ∈ evK d ↔ (p ∈ evK c ∧ p ≠ r) ∨ p ∈ news)
    (hb : d.batches = c.batches) (hn : d.nextJ = c.nextJ) : BShape d := by
  obtain ⟨⟨p0, hp0, f0, hf0, hz0⟩, hin, hall⟩ := hB.re r hr f s [] none hrk
  -- the frames of the branch events there were are `f` but for the slot; `p0` is one of them
  have hfr : ∀ p ∈ evK c, ∀ g, brEv p g → ∃ i, g = { f with idx := i } := fun p hp g hg =>
    let ⟨h1, h2, h3, h4, _⟩ := hall p hp g hg
    Frame.eq_slot h1 h2 h3 h4
  obtain ⟨i0, rfl⟩ := hfr p0 hp0 f0 hf0
  obtain ⟨-, hsm, hsw⟩ : 0 < s ∧ s % f.mc = 0 ∧ s < f.width := hB.bmult p0 hp0 _ hf0 s hin
  -- `r` is not a branch event: the branch events stay, and those of the batch come
  have old : ∀ {i}, launched c i → launched d i := fun h => h.mono fun p hp g hg =>
    ⟨p, (hmem p).mpr (.inl ⟨hp, fun e => by rw [e, brEv, hrk] at hg; cases hg⟩), hg⟩
  have new : ∀ i, i < f.width → i / f.mc = s / f.mc → launched d i := fun i hi hb' =>
    let ⟨p', hp', t, hk⟩ := hcov i hi hb'
    ⟨p', (hmem p').mpr (.inr hp'), { f with idx := i }, by rw [brEv, hk]; rfl, rfl⟩
  have hbr : ∀ p ∈ evK d, ∀ g, brEv p g → ∃ i, g = { f with idx := i } ∧ (p ∈ evK c ∨ (i < f.width ∧ i / f.mc = s / f.mc)) := by
    intro p hp g hg
    rcases (hmem p).mp hp with ⟨h, _⟩ | h
    · exact (hfr p h g hg).imp fun i e => ⟨e, .inl h⟩
    · obtain ⟨i, hi, hb', t, hk⟩ := hnews p h
      rw [brEv, hk] at hg
      cases hg
      exact ⟨i, rfl, .inr ⟨hi, hb'⟩⟩
  have hnone : ∀ p ∈ evK d, ∀ g s' st o, p.2 ≠ .reenter g s' st o := by
    intro p hp g s' st o hk
    rcases (hmem p).mp hp with ⟨h, hne⟩ | h
    · exact hne (hB.reone p h r hr g s' st o f s [] none hk hrk)
    · obtain ⟨i, _, _, t, hk'⟩ := hnews p h
      rw [hk'] at hk; cases hk
  exact
    { bcover := fun p hp g hg i hi hb' => by
        obtain ⟨j, rfl, h | h⟩ := hbr p hp g hg
        · exact old (hB.bcover p h _ hg i hi hb')
        · exact new i hi (hb'.trans h.2)
      zero := fun _ _ _ _ => old ⟨p0, hp0, _, hf0, hz0⟩
      samemc := fun p1 hp1 p2 hp2 g1 g2 hg1 hg2 => by
        obtain ⟨_, rfl, -⟩ := hbr p1 hp1 g1 hg1
        obtain ⟨_, rfl, -⟩ := hbr p2 hp2 g2 hg2
        rfl
      re := fun p hp g s' st o hk => absurd hk (hnone p hp g s' st o)
      rb := fun p hp g hg s' hs' => by
        obtain ⟨_, rfl, -⟩ := hbr p hp g hg
        -- the batch on record whose re-entry event was queued is the one that is launched
        rcases hB.rb p0 hp0 _ hf0 s' (hb ▸ hs') with ⟨p', hp', g', st, o, hk⟩ | h
        · cases hB.reone p' hp' r hr g' s' st o f s [] none hk hrk
          cases hrk.symm.trans hk
          exact .inr (new s hsw rfl)
        · exact .inr (old h)
      imax := fun p hp g hg hne => by
        obtain ⟨i, rfl, h | h⟩ := hbr p hp g hg
        · exact hb ▸ hB.imax p h _ hg hne
        · show (f.jid, i / f.mc * f.mc) ∈ d.batches
          rw [hb, h.2, Nat.div_mul_cancel (Nat.dvd_of_mod_eq_zero hsm)]
          exact hin
      down := fun p hp g hg => by
        obtain ⟨_, rfl, -⟩ := hbr p hp g hg
        have := hB.down p0 hp0 _ hf0
        exact hb ▸ this
      bmult := fun p hp g hg => by
        obtain ⟨_, rfl, -⟩ := hbr p hp g hg
        have := hB.bmult p0 hp0 _ hf0
        exact hb ▸ this
      bjlt := hb ▸ hn ▸ hB.bjlt
      reone := fun p1 hp1 _ _ f1 s1 st1 o1 _ _ _ _ h1 _ => absurd h1 (hnone p1 hp1 f1 s1 st1 o1) }

/-- no branch event and no re-entry event in the queue (a top-level event, or nothing): only the record matters -/
theorem BShape.top {c : Cfg} (hbr : ∀ p ∈ evK c, ∀ g, ¬ brEv p g) (hre : ∀ p ∈ evK c, ∀ g s st o, p.2 ≠ .reenter g s st o)
    (hb : ∀ b ∈ c.batches, b.1 < c.nextJ) : BShape c where
  bcover p hp g hg := absurd hg (hbr p hp g)
  zero p hp g hg := absurd hg (hbr p hp g)
  samemc p hp _ _ g _ hg := absurd hg (hbr p hp g)
  re p hp g s st o hk := absurd hk (hre p hp g s st o)
  rb p hp g hg := absurd hg (hbr p hp g)
  imax p hp g hg := absurd hg (hbr p hp g)
  down p hp g hg := absurd hg (hbr p hp g)
  bmult p hp g hg := absurd hg (hbr p hp g)
  bjlt := hb
  reone p hp _ _ g s st o _ _ _ _ hk := absurd hk (hre p hp g s st o)

/-- one event of the queue is replaced by another with the same Branch stack that is not a re-entry event (the next visit of
the same sequence); the record is unchanged -/
theorem BShape.replace {c d : Cfg} (h : BShape c) {x y : Nat × EvKind} (hx : x ∈ evK c)
    (hmem : ∀ p, p ∈ evK d ↔ (p ∈ evK c ∧ p ≠ x) ∨ p = y) (hstk : evStack y.2 = evStack x.2)
    (hxv : ∀ g s st o, x.2 ≠ .reenter g s st o) (hyv : ∀ g s st o, y.2 ≠ .reenter g s st o)
    (hb : d.batches = c.batches) (hn : d.nextJ = c.nextJ) : BShape d := by
  -- a branch event afterwards has the frame of a branch event before, and the other way round
  have back : ∀ p ∈ evK d, ∀ g, brEv p g → ∃ q ∈ evK c, brEv q g := fun p hp g hg =>
    ((hmem p).mp hp).elim (fun h => ⟨p, h.1, hg⟩) (fun e => ⟨x, hx, hstk.symm.trans (e ▸ hg)⟩)
  have lift : ∀ {i}, launched c i → launched d i := fun h => h.mono fun q hq g hg =>
    if e : q = x then ⟨y, (hmem y).mpr (.inr rfl), hstk.trans (e ▸ hg)⟩ else ⟨q, (hmem q).mpr (.inl ⟨hq, e⟩), hg⟩
  have hre : ∀ p g s st o, p.2 = .reenter g s st o → (p ∈ evK d ↔ p ∈ evK c) := fun p g s st o hk =>
    (hmem p).trans ⟨fun h => h.elim (·.1) (fun e => absurd (e ▸ hk) (hyv g s st o)), fun h => .inl ⟨h, fun e => hxv g s st o (e ▸ hk)⟩⟩
  exact
    { bcover := fun p hp g hg i hi hb' => let ⟨q, hq, hg'⟩ := back p hp g hg; lift (h.bcover q hq g hg' i hi hb')
      zero := fun p hp g hg => let ⟨q, hq, hg'⟩ := back p hp g hg; lift (h.zero q hq g hg')
      samemc := fun p1 hp1 p2 hp2 g1 g2 hg1 hg2 =>
        let ⟨q1, hq1, hg1'⟩ := back p1 hp1 g1 hg1
        let ⟨q2, hq2, hg2'⟩ := back p2 hp2 g2 hg2
        h.samemc q1 hq1 q2 hq2 g1 g2 hg1' hg2'
      re := fun p hp g s st o hk =>
        let ⟨h0, hin, hall⟩ := h.re p ((hre p g s st o hk).mp hp) g s st o hk
        ⟨lift h0, hb ▸ hin, fun p2 hp2 g2 hg2 => let ⟨q2, hq2, hg2'⟩ := back p2 hp2 g2 hg2; hall q2 hq2 g2 hg2'⟩
      rb := fun p hp g hg s hs =>
        let ⟨q, hq, hg'⟩ := back p hp g hg
        (h.rb q hq g hg' s (hb ▸ hs)).imp (fun ⟨p', hp', g', st, o, hk⟩ => ⟨p', (hre p' g' s st o hk).mpr hp', g', st, o, hk⟩) lift
      imax := fun p hp g hg hne => let ⟨q, hq, hg'⟩ := back p hp g hg; hb ▸ h.imax q hq g hg' hne
      down := fun p hp g hg => let ⟨q, hq, hg'⟩ := back p hp g hg; hb ▸ h.down q hq g hg'
      bmult := fun p hp g hg => let ⟨q, hq, hg'⟩ := back p hp g hg; hb ▸ h.bmult q hq g hg'
      bjlt := hb ▸ hn ▸ h.bjlt
      reone := fun p1 hp1 p2 hp2 f1 s1 st1 o1 f2 s2 st2 o2 h1 h2 =>
        h.reone p1 ((hre p1 f1 s1 st1 o1 h1).mp hp1) p2 ((hre p2 f2 s2 st2 o2 h2).mp hp2) f1 s1 st1 o1 f2 s2 st2 o2 h1 h2 }

/-- the fan-out state is launched (attempt `f.jid = c.nextJ`, nothing of it on record): the slots of the first batch get their
events, which are then the whole queue -/
theorem BShape.first {c d : Cfg} {f : Frame} (hbj : ∀ b ∈ c.batches, b.1 < c.nextJ) (hj : f.jid = c.nextJ) (hw : 0 < f.width)
    (hnews : ∀ p ∈ evK d, ∃ i, i < f.width ∧ i / f.mc = 0 ∧ ∃ t, p.2 = .visit t [{ f with idx := i }] false none)
    (hcov : ∀ i, i < f.width → i / f.mc = 0 → ∃ p ∈ evK d, ∃ t, p.2 = .visit t [{ f with idx := i }] false none)
    (hb : d.batches = c.batches) (hn : d.nextJ = c.nextJ + 1) : BShape d := by
  have hnoJ : ∀ s, (f.jid, s) ∉ d.batches := fun s hs => Nat.lt_irrefl _ (hj ▸ hbj _ (hb ▸ hs))
  have hbr : ∀ p ∈ evK d, ∀ g, brEv p g → ∃ i, g = { f with idx := i } ∧ i / f.mc = 0 := by
    intro p hp g hg
    obtain ⟨i, -, hb', t, hk⟩ := hnews p hp
    rw [brEv, hk] at hg
    cases hg
    exact ⟨i, rfl, hb'⟩
  have hre : ∀ p ∈ evK d, ∀ g s st o, p.2 ≠ .reenter g s st o := by
    intro p hp g s st o hk
    obtain ⟨i, -, -, t, hk'⟩ := hnews p hp
    rw [hk'] at hk; cases hk
  have new : ∀ i, i < f.width → i / f.mc = 0 → launched d i := fun i hi hb' =>
    let ⟨p', hp', t, hk⟩ := hcov i hi hb'
    ⟨p', hp', { f with idx := i }, by rw [brEv, hk]; rfl, rfl⟩
  exact
    { bcover := fun p hp g hg i hi hb' => by
        obtain ⟨_, rfl, h0⟩ := hbr p hp g hg
        exact new i hi (hb'.trans h0)
      zero := fun _ _ _ _ => new 0 hw (Nat.zero_div _)
      samemc := fun p1 hp1 p2 hp2 g1 g2 hg1 hg2 => by
        obtain ⟨_, rfl, -⟩ := hbr p1 hp1 g1 hg1
        obtain ⟨_, rfl, -⟩ := hbr p2 hp2 g2 hg2
        rfl
      re := fun p hp g s st o hk => absurd hk (hre p hp g s st o)
      rb := fun p hp g hg s hs => by
        obtain ⟨_, rfl, -⟩ := hbr p hp g hg
        exact absurd hs (hnoJ s)
      imax := fun p hp g hg hne => by
        obtain ⟨_, rfl, h0⟩ := hbr p hp g hg
        exact absurd h0 hne
      down := fun p hp g hg s _ hs => by
        obtain ⟨_, rfl, -⟩ := hbr p hp g hg
        exact absurd hs (hnoJ s)
      bmult := fun p hp g hg s hs => by
        obtain ⟨_, rfl, -⟩ := hbr p hp g hg
        exact absurd hs (hnoJ s)
      bjlt := fun b hb' => hn ▸ Nat.lt_succ_of_lt (hbj b (hb ▸ hb'))
      reone := fun p1 hp1 _ _ f1 s1 st1 o1 _ _ _ _ h1 _ => absurd h1 (hre p1 hp1 f1 s1 st1 o1) }

end Asl.Crash
