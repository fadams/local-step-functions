/-
The execution's time limit in the timed reference semantics (`Env.deadline`, AslModel/Interp.lean).

`Capped`: with a deadline `D` (and the switch of C08-F1 off) no run — of any of the seven mutually recursive
functions, from any state whose clock is not beyond the bound — files an event at an instant beyond
`B ≥ max(clock, D)`, nor moves the clock beyond it (`capAll`).  The interpreter lets time pass only until instants
that are `Env.Timely`, and these are not beyond `max(now, B)`: `Reach.capped`, induction over `Reach`.
-/
import AslModel.Interp
import Proofs.Lemmas.Reach
namespace Asl

def Capped (B : Rat) (st st' : St) : Prop :=
  st'.clock ≤ B ∧ ∃ ts, st'.times = ts ++ st.times ∧ ∀ t ∈ ts, t ≤ B

theorem Capped.refl {B : Rat} {st : St} (h : st.clock ≤ B) : Capped B st st := ⟨h, [], rfl, by simp⟩

theorem Capped.trans {B : Rat} {a b c : St} (h1 : Capped B a b) (h2 : Capped B b c) : Capped B a c := by
  obtain ⟨_, t1, e1, g1⟩ := h1
  obtain ⟨c2, t2, e2, g2⟩ := h2
  refine ⟨c2, t2 ++ t1, by rw [e2, e1, List.append_assoc], ?_⟩
  intro t ht
  rcases List.mem_append.mp ht with h | h
  · exact g2 t h
  · exact g1 t h

theorem Capped.same {B : Rat} {a b : St} (h : Capped B a b) (c : St) (ht : c.times = b.times) (hc : c.clock ≤ B) :
    Capped B a c := by
  obtain ⟨_, t1, e1, g1⟩ := h
  exact ⟨hc, t1, by rw [ht, e1], g1⟩

theorem Capped.push {B : Rat} {a b : St} (h : Capped B a b) (e : Ev) : Capped B a (b.push e) := by
  obtain ⟨c1, t1, e1, g1⟩ := h
  refine ⟨c1, b.clock :: t1, by simp [St.push, e1], ?_⟩
  intro t ht
  rcases List.mem_cons.mp ht with h | h
  · rw [h]; exact c1
  · exact g1 t h

theorem Capped.waitUntil {B : Rat} {a b : St} (h : Capped B a b) (t : Rat) (ht : t ≤ B) : Capped B a (b.waitUntil t) :=
  h.same _ rfl (rmax_le h.1 ht)

theorem Capped.fr {B : Rat} {a b : St} (h : Capped B a b) (f : FS → FS) : Capped B a (b.fr f) := h.same _ rfl h.1
theorem Capped.request {B : Rat} {a b : St} (h : Capped B a b) (t : Bool) : Capped B a (b.request t) := h.fr _
theorem Capped.launch {B : Rat} {a b : St} (h : Capped B a b) (ns : List Str) : Capped B a (b.launch ns) := h.fr _

theorem Capped.fanFail {B : Rat} {a b : St} (h : Capped B a b) (x : Bool) : Capped B a { b with fanFail := x } :=
  h.same _ rfl h.1

theorem Capped.taskSilent {B : Rat} {a b : St} (h : Capped B a b) (counts : List ((Str × Json) × Nat)) (res : Str)
    (p : Json) (tEnd : Rat) (ht : tEnd ≤ B) : Capped B a (b.taskSilent counts res p tEnd) := by
  have h0 : Capped B a ({ b with counts := counts } : St) := h.same _ rfl h.1
  exact (h0.push _).waitUntil tEnd ht

theorem Capped.taskCall {B : Rat} {a b : St} (h : Capped B a b) (counts : List ((Str × Json) × Nat)) (res : Str)
    (p : Json) (ev : Ev) (tEnd : Rat) (ht : tEnd ≤ B) : Capped B a (b.taskCall counts res p ev tEnd) :=
  (h.taskSilent counts res p tEnd ht).push ev

theorem Capped.combine {B : Rat} {a st2 : St} (h : Capped B a st2) (r : Res) (t1 : Rat) (rest : Except Res (List Json))
    (tOk : Rat) (h1 : t1 ≤ B) (hOk : tOk ≤ B) : Capped B a (fanCombine r t1 rest st2 tOk).2 := by
  obtain ⟨m, t, c, e, hc⟩ := fanCombine_snd r t1 rest st2 tOk
  rw [e]
  refine h.same _ rfl ?_
  rcases hc with rfl | rfl | rfl
  · exact h.1
  · exact h1
  · exact hOk

structure CapAll (env : Env) (D : Rat) (n : Nat) : Prop where
  runFrom : ∀ states name data ctx r st B, st.clock ≤ B → D ≤ B →
    Capped B st (runFrom env n states name data ctx r st).2
  leave : ∀ states name state raw data ctx r st B, st.clock ≤ B → D ≤ B →
    Capped B st (leave env n states name state raw data ctx r st).2
  handleErr : ∀ states name state data ctx r e msg st B, st.clock ≤ B → D ≤ B →
    Capped B st (handleErr env n states name state data ctx r e msg st).2
  runState : ∀ states name state data ctx r st B, st.clock ≤ B → D ≤ B →
    Capped B st (runState env n states name state data ctx r st).2
  joinAndLeave : ∀ states name state data ctx r res st B, st.clock ≤ B → D ≤ B →
    Capped B st (joinAndLeave env n states name state data ctx r res st).2
  runBranches : ∀ bs params ctx st B, st.clock ≤ B → D ≤ B → Capped B st (runBranches env n bs params ctx st).2
  runItems : ∀ proc sel input items i mc be ctx bad st B, st.clock ≤ B → be ≤ B → D ≤ B →
    Capped B st (runItems env n proc sel input items i mc be ctx bad st).2

/-- (`t ≤ rmax b.clock B`: what `Reach` with the `W` of `Reach.capped` says of an instant time may pass until) -/
theorem Capped.le_bound {B t : Rat} {a b : St} (h : Capped B a b) (ht : t ≤ rmax b.clock B) : t ≤ B :=
  Rat.le_trans ht (rmax_le h.1 Rat.le_refl)

theorem Reach.capped {B : Rat} {k : Bool} {a b : St} (h : Reach (fun now t => t ≤ rmax now B) k a b) (ha : a.clock ≤ B) :
    Capped B a b := by
  induction h with
  | refl => exact Capped.refl ha
  | entered ty n d _ ih => exact ((ih ha).push (.entered ty n d)).same _ rfl (ih ha).1
  | exit | fanStarted | fanFailed | iterStarted | iterFailed => rename_i ih; exact (ih ha).push _
  | wait t ht _ ih => exact (ih ha).waitUntil t ((ih ha).le_bound ht)
  | atClock s _ _ ih ihs => exact (ih ha).same _ rfl (ihs ha).1
  | taskCall cs res p m r to t ht _ ih => exact (ih ha).taskCall cs res p _ t ((ih ha).le_bound ht)
  | taskSilent cs res p t ht _ ih => exact (ih ha).taskSilent cs res p t ((ih ha).le_bound ht)
  | flags m t f _ ih => exact (ih ha).same _ rfl (ih ha).1
  | handover | closeKeep | request | visit | failTok | startBranch | launch | endBranch | batch =>
    rename_i ih; exact (ih ha).fr _
  | fan mc f _ _ ih ihi => exact (((ih ha).fr _).trans (ihi (ih ha).1)).fr _

theorem capAll (env : Env) (D : Rat) (hdl : env.deadline = some D) (hq : env.retryPastDeadline = false) (n : Nat) :
    CapAll env D n := by
  -- what is `Timely` is not beyond `max(now, B)`, for every bound `B` that is not before the deadline
  have R : ∀ B, D ≤ B → ReachAll env (fun now t => t ≤ rmax now B) n := fun B hB =>
    reachAll env _ (fun now t ht => Rat.le_trans (ht hq D hdl) (rmax_le (le_rmax_left _ _)
      (Rat.le_trans hB (le_rmax_right _ _)))) n
  exact
  { runFrom := fun _ _ _ _ _ _ B hst hB => ((R B hB).runFrom (Reach.refl false _) ..).capped hst
    leave := fun _ _ _ _ _ _ _ _ B hst hB => ((R B hB).leave (Reach.refl false _) ..).capped hst
    handleErr := fun _ _ _ _ _ _ _ _ _ B hst hB => ((R B hB).handleErr (Reach.refl false _) ..).capped hst
    runState := fun _ _ _ _ _ _ _ B hst hB => ((R B hB).runState (Reach.refl false _) ..).capped hst
    joinAndLeave := fun _ _ _ _ _ _ _ _ B hst hB => ((R B hB).joinAndLeave (Reach.refl false _) ..).capped hst
    runBranches := fun _ _ _ _ B hst hB => ((R B hB).runBranches (Reach.refl _ _) ..).capped hst
    runItems := fun _ _ _ _ _ _ _ _ _ st B hst hbe hB =>
      ((R B hB).runItems (Reach.refl _ st) _ _ _ _ _ _ _ _ _
        (fun _ hb => hb.wait _ (Rat.le_trans hbe (le_rmax_right _ _)))).capped hst }

end Asl
