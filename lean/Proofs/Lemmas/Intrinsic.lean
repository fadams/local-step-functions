/- For C13: a template without `.$` member names is copied (`walk_noDollar`); the errors evaluation can raise (`*_error`);
`applyFn` on six names (`dispatch_*`). -/
import AslModel.Template
namespace Asl

mutual
/-- no member name ends in `.$`, at any depth -/
def noDollar : Json → Bool
  | .arr xs => noDollarL xs
  | .obj kvs => noDollarM kvs
  | _ => true
def noDollarL : List Json → Bool
  | [] => true
  | x :: xs => noDollar x && noDollarL xs
def noDollarM : List (Str × Json) → Bool
  | [] => true
  | (k, v) :: kvs => !endsDollar k && noDollar v && noDollarM kvs
end

theorem walk_scalar (o : Oracles) (input ctx v : Json) (hv : isContainer v = false) :
    walk o .none input ctx v = .ok v := by
  cases v <;> simp_all [walk, isContainer, Quirks.none]

mutual
theorem walk_noDollar (o : Oracles) (input ctx : Json) :
    (t : Json) → noDollar t = true → walk o .none input ctx t = .ok t
  | .arr xs, h => by
    have := walkL_noDollar o input ctx xs (by simpa [noDollar] using h)
    simp [walk, this]
  | .obj kvs, h => by
    have := walkM_noDollar o input ctx kvs (by simpa [noDollar] using h)
    simp [walk, this]
  | .str s, _ => by simp [walk, Quirks.none]
  | .null, _ => by simp [walk]
  | .bool _, _ => by simp [walk]
  | .num _, _ => by simp [walk]
theorem walkL_noDollar (o : Oracles) (input ctx : Json) :
    (xs : List Json) → noDollarL xs = true → walkL o .none input ctx xs = .ok xs
  | [], _ => by simp [walkL]
  | x :: xs, h => by
    simp only [noDollarL, Bool.and_eq_true] at h
    simp [walkL, walk_noDollar o input ctx x h.1, walkL_noDollar o input ctx xs h.2]
theorem walkM_noDollar (o : Oracles) (input ctx : Json) :
    (kvs : List (Str × Json)) → noDollarM kvs = true → walkM o .none input ctx kvs = .ok kvs
  | [], _ => by simp [walkM]
  | (k, v) :: kvs, h => by
    simp only [noDollarM, Bool.and_eq_true, Bool.not_eq_true'] at h
    simp [walkM, h.1.1, walk_noDollar o input ctx v h.1.2, walkM_noDollar o input ctx kvs h.2, Except.map]
end

theorem applyJsonPathText_error (d : Json) (t : Str) (e : PErr) :
    applyJsonPathText d t = .error e → e = .pathMatch := by
  fun_cases applyJsonPathText d t <;> rintro ⟨⟩ <;> rfl

theorem applyPath_error (input ctx : Json) (p : Option Str) (e : PErr) :
    applyPath input ctx p = .error e → e = .pathMatch ∨ e = .paramPath := by
  fun_cases applyPath input ctx p
  · rintro ⟨⟩
  · exact fun h => .inl (applyJsonPathText_error _ _ _ h)
  · exact fun h => .inl (applyJsonPathText_error _ _ _ h)
  · rintro ⟨⟩; exact .inr rfl

theorem applyFn_error (o : Oracles) (f : Str) (vs : List Json) (e : PErr) :
    applyFn o f vs = .error e → e = .intrinsic := by
  -- every arm of every function is `.ok _` or `.error .intrinsic`
  fun_cases applyFn o f vs
  · fun_cases fnFormat vs <;> rintro ⟨⟩ <;> rfl
  · fun_cases fnStringToJson vs <;> rintro ⟨⟩ <;> rfl
  · fun_cases fnJsonToString vs <;> rintro ⟨⟩ <;> rfl
  · rintro ⟨⟩
  · fun_cases fnArrayPartition vs <;> rintro ⟨⟩ <;> rfl
  · fun_cases fnArrayContains vs <;> rintro ⟨⟩ <;> rfl
  · fun_cases fnArrayRange vs <;> rintro ⟨⟩ <;> rfl
  · fun_cases fnArrayGetItem vs <;> rintro ⟨⟩ <;> rfl
  · fun_cases fnArrayLength vs <;> rintro ⟨⟩ <;> rfl
  · fun_cases fnArrayUnique vs <;> rintro ⟨⟩ <;> rfl
  · fun_cases fnBase64Encode vs <;> rintro ⟨⟩ <;> rfl
  · fun_cases fnBase64Decode vs <;> rintro ⟨⟩ <;> rfl
  · fun_cases fnHash o vs <;> rintro ⟨⟩ <;> rfl
  · fun_cases fnJsonMerge vs <;> rintro ⟨⟩ <;> rfl
  · fun_cases fnMathRandom o vs <;> rintro ⟨⟩ <;> rfl
  · fun_cases fnMathAdd vs <;> rintro ⟨⟩ <;> rfl
  · fun_cases fnStringSplit vs <;> rintro ⟨⟩ <;> rfl
  · fun_cases fnUUID o vs <;> rintro ⟨⟩ <;> rfl
  · rintro ⟨⟩; rfl

theorem dispatch_Format (o : Oracles) (vs : List Json) :
    applyFn o "States.Format".toList vs = fnFormat vs := by
  simp only [applyFn, ↓reduceIte]

theorem dispatch_StringToJson (o : Oracles) (vs : List Json) :
    applyFn o "States.StringToJson".toList vs = fnStringToJson vs := by
  simp only [applyFn, String.toList_inj, String.reduceEq, ↓reduceIte]

theorem dispatch_JsonToString (o : Oracles) (vs : List Json) :
    applyFn o "States.JsonToString".toList vs = fnJsonToString vs := by
  simp only [applyFn, String.toList_inj, String.reduceEq, ↓reduceIte]

theorem dispatch_Base64Encode (o : Oracles) (vs : List Json) :
    applyFn o "States.Base64Encode".toList vs = fnBase64Encode vs := by
  simp only [applyFn, String.toList_inj, String.reduceEq, ↓reduceIte]

theorem dispatch_Base64Decode (o : Oracles) (vs : List Json) :
    applyFn o "States.Base64Decode".toList vs = fnBase64Decode vs := by
  simp only [applyFn, String.toList_inj, String.reduceEq, ↓reduceIte]

theorem dispatch_MathAdd (o : Oracles) (vs : List Json) :
    applyFn o "States.MathAdd".toList vs = fnMathAdd vs := by
  simp only [applyFn, String.toList_inj, String.reduceEq, ↓reduceIte]

mutual
theorem evalArg_error (o : Oracles) (input ctx : Json) :
    (a : Arg) → (e : PErr) → evalArg o input ctx a = .error e →
      e = .intrinsic ∨ e = .pathMatch ∨ e = .paramPath
  | .str _, e, h => by simp [evalArg] at h
  | .int _, e, h => by simp [evalArg] at h
  | .null, e, h => by simp [evalArg] at h
  | .bool _, e, h => by simp [evalArg] at h
  | .path p, e, h => by
    simp only [evalArg] at h
    exact Or.inr (applyPath_error _ _ _ _ h)
  | .call f args, e, h => by
    simp only [evalArg] at h
    split at h
    · exact Or.inl (applyFn_error o f _ e h)
    · rename_i e' he
      cases h
      exact evalArgs_error o input ctx args _ he
theorem evalArgs_error (o : Oracles) (input ctx : Json) :
    (as : List Arg) → (e : PErr) → evalArgs o input ctx as = .error e →
      e = .intrinsic ∨ e = .pathMatch ∨ e = .paramPath
  | [], e, h => by simp [evalArgs] at h
  | a :: as, e, h => by
    simp only [evalArgs] at h
    split at h
    · rename_i e' he
      cases h
      exact evalArg_error o input ctx a _ he
    · split at h
      · cases h
      · rename_i e' he
        cases h
        exact evalArgs_error o input ctx as _ he
end

end Asl
