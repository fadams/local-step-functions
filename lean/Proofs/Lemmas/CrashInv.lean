/-
The invariants of the crash protocol (AslModel/Crash.lean) shared by the classes of skeletons without failure points
and child executions (`K`: the events of a class; `failed = 0`, `deadJ = []`, no `actPre` for their operations).  `Dur K c`, the
durable part, is insensitive to the delivery flags, so a crash keeps it, and it is kept by every prefix of a handler's operations
that is *ordered* (`ok`: C03's rule).  `VolI c`: what the engine's memory registers are exactly the unacknowledged messages.
-/
import Proofs.Lemmas.CrashBasic
namespace Asl.Crash

/-- the visits that send a request and wait for its reply -/
def isTaskKind : EvKind → Bool
  | .visit (.task _ _) _ _ _ => true
  | .visit (.child _ _ _) _ _ _ => true
  | _ => false

/-- the events a timer may be armed for: a Task's or child's (the back-off of a retry: the request is sent from there), a
Wait's, a fan-out state's and a re-entry event's (the launch) -/
def timerKind : EvKind → Bool
  | .visit (.task _ _) _ _ _ => true
  | .visit (.child _ _ _) _ _ _ => true
  | .visit (.wait _) _ _ _ => true
  | .visit (.par _ _ _) _ _ _ => true
  | .reenter _ _ _ _ => true
  | _ => false

def evK (c : Cfg) : List (Nat × EvKind) := c.evq.map (fun e => (e.id, e.kind))
def rpC (c : Cfg) : List Nat := c.rpq.map (·.corr)

theorem mem_evK {c : Cfg} {e : QEv} (h : e ∈ c.evq) : (e.id, e.kind) ∈ evK c :=
  List.mem_map.mpr ⟨e, h, rfl⟩

structure Dur (K : EvKind → Prop) (c : Cfg) : Prop where
  kinds : ∀ p ∈ evK c, K p.2
  ids : ((evK c).map (·.1)).Nodup
  idlt : ∀ p ∈ evK c, p.1 < c.nextId
  sentlt : ∀ x ∈ c.sent, x < c.nextId
  sentnd : c.sent.Nodup
  corrnd : (rpC c).Nodup
  corrsent : ∀ x ∈ rpC c, x ∈ c.sent
  reply : ∀ p ∈ evK c, p.1 ∈ c.sent → isTaskKind p.2 = true ∧ p.1 ∈ rpC c
  alive : evK c ≠ [] ∨ 1 ≤ c.notes
  nodiv : c.diverged = false
  nofail : c.failed = 0
  nodead : c.deadJ = []

theorem Dur.congr {K : EvKind → Prop} {c d : Cfg} (h : Dur K c) (h1 : evK d = evK c := by rfl)
    (h2 : rpC d = rpC c := by rfl) (h3 : d.sent = c.sent := by rfl) (h4 : d.nextId = c.nextId := by rfl)
    (h5 : d.notes = c.notes := by rfl) (h6 : d.diverged = c.diverged := by rfl) (h7 : d.failed = c.failed := by rfl)
    (h8 : d.deadJ = c.deadJ := by rfl) : Dur K d where
  kinds := h1 ▸ h.kinds
  ids := h1 ▸ h.ids
  idlt := h1 ▸ h4 ▸ h.idlt
  sentlt := h3 ▸ h4 ▸ h.sentlt
  sentnd := h3 ▸ h.sentnd
  corrnd := h2 ▸ h.corrnd
  corrsent := h2 ▸ h3 ▸ h.corrsent
  reply := h1 ▸ h2 ▸ h3 ▸ h.reply
  alive := h1 ▸ h5 ▸ h.alive
  nodiv := h6 ▸ h.nodiv
  nofail := h7 ▸ h.nofail
  nodead := h8 ▸ h.nodead

theorem Dur.idnd {K : EvKind → Prop} {c : Cfg} (h : Dur K c) : (c.evq.map (·.id)).Nodup := by
  simpa [evK, List.map_map, Function.comp_def] using h.ids

theorem Dur.split {K : EvKind → Prop} {c : Cfg} (h : Dur K c) {m : QEv} (hm : m ∈ c.evq) :
    ∃ l1 l2, c.evq = l1 ++ m :: l2 ∧ (∀ e ∈ l1, e.id ≠ m.id) ∧ (∀ e ∈ l2, e.id ≠ m.id) :=
  split_of_mem hm h.idnd

theorem evK_markEv (c : Cfg) (id : Nat) : evK (markEv c id) = evK c := by
  simp only [evK, markEv_evq, List.map_map]
  apply List.map_congr_left
  intro e _
  simp [markOne_id, markOne_kind]

theorem evK_crash (c : Cfg) : evK c.crash = evK c := by
  simp only [evK, Cfg.crash, List.map_map]
  apply List.map_congr_left
  intro e _
  simp only [Function.comp]
  split <;> rfl

theorem rpC_crash (c : Cfg) : rpC c.crash = rpC c := by
  simp only [rpC, Cfg.crash, List.map_map]
  apply List.map_congr_left
  intro e _
  simp only [Function.comp]
  split <;> rfl

theorem map_corr_markRpL (l : List QRp) (corr : Nat) : (markRpL l corr).map (·.corr) = l.map (·.corr) := by
  fun_induction markRpL l corr with
  | case1 => rfl
  | case2 => rfl
  | case3 r rs corr _ ih => simp [ih]

theorem Dur.crash {K : EvKind → Prop} {c : Cfg} (h : Dur K c) : Dur K c.crash :=
  h.congr (evK_crash c) (rpC_crash c)

theorem Dur.markEv {K : EvKind → Prop} {c : Cfg} (h : Dur K c) (id : Nat) : Dur K (markEv c id) :=
  h.congr (evK_markEv c id)

theorem Dur.markRp {K : EvKind → Prop} {c : Cfg} (h : Dur K c) (corr : Nat) : Dur K { c with rpq := markRpL c.rpq corr } :=
  h.congr (h2 := map_corr_markRpL c.rpq corr)

theorem Dur.withVol {K : EvKind → Prop} {c : Cfg} (h : Dur K c) (v : Vol) : Dur K (c.withVol v) :=
  h.congr

theorem Dur.pubEv {K : EvKind → Prop} {c : Cfg} (h : Dur K c) {k : EvKind} (hk : K k) : Dur K (c.act (.pubEv k)) := by
  have hev : evK (c.act (.pubEv k)) = evK c ++ [(c.nextId, k)] := by simp [evK, Cfg.act]
  have hmem : ∀ {p}, p ∈ evK (c.act (.pubEv k)) ↔ p ∈ evK c ∨ p = (c.nextId, k) := by simp [hev]
  exact { h with
    kinds := fun p hp => (hmem.mp hp).elim (h.kinds p) (· ▸ hk)
    ids := by
      rw [hev, List.map_append]
      exact nodup_concat h.ids fun hc => let ⟨p, hp, e⟩ := List.mem_map.mp hc; Nat.lt_irrefl _ (e ▸ h.idlt p hp)
    idlt := fun p hp => (hmem.mp hp).elim (fun hp => Nat.lt_succ_of_lt (h.idlt p hp)) (· ▸ Nat.lt_succ_self _)
    sentlt := fun x hx => Nat.lt_succ_of_lt (h.sentlt x hx)
    reply := fun p hp hs => (hmem.mp hp).elim (fun hp => h.reply p hp hs) fun e => absurd (h.sentlt _ hs) (e ▸ Nat.lt_irrefl _)
    alive := Or.inl (by rw [hev]; simp) }

theorem Dur.pubReq {K : EvKind → Prop} {c : Cfg} (h : Dur K c) {id : Nat}
    (hev : ∃ p ∈ evK c, p.1 = id ∧ isTaskKind p.2 = true) (hns : id ∉ c.sent) : Dur K (c.act (.pubReq id)) := by
  obtain ⟨p0, hp0, rfl, ht0⟩ := hev
  have hrp : rpC (c.act (.pubReq p0.1)) = rpC c ++ [p0.1] := by simp [rpC, Cfg.act]
  have hmem : ∀ {x : Nat} {l : List Nat}, x ∈ l ++ [p0.1] ↔ x ∈ l ∨ x = p0.1 := by simp
  exact { h with
    sentlt := fun x hx => (hmem.mp hx).elim (h.sentlt x) (· ▸ h.idlt p0 hp0)
    sentnd := nodup_concat h.sentnd hns
    corrnd := hrp ▸ nodup_concat h.corrnd fun hc => hns (h.corrsent _ hc)
    corrsent := fun x hx => hmem.mpr ((hmem.mp (hrp ▸ hx)).imp_left (h.corrsent x))
    reply := fun p hp hs => by
      rw [hrp]
      rcases hmem.mp hs with hs | hs
      · exact (h.reply p hp hs).imp_right fun b => hmem.mpr (.inl b)
      · -- ids are distinct: `p` is the event whose request is sent
        cases eq_of_nodup_map (·.1) h.ids hp hp0 hs
        exact ⟨ht0, hmem.mpr (.inr rfl)⟩ }

theorem Dur.note {K : EvKind → Prop} {c : Cfg} (h : Dur K c) (b : Bool) : Dur K (c.act (.note b)) := by
  cases b
  · exact h.congr
  · exact { h with alive := Or.inr (Nat.le_add_left 1 c.notes) }

theorem Dur.ackEv {K : EvKind → Prop} {c : Cfg} (h : Dur K c) {id : Nat}
    (hal : 1 ≤ c.notes ∨ ∃ p ∈ evK c, p.1 ≠ id) : Dur K (c.act (.ackEv id)) := by
  have hsub : (evK (c.act (.ackEv id))).Sublist (evK c) := List.filter_sublist.map _
  refine { h with kinds := fun p hp => h.kinds p (hsub.subset hp), ids := List.Nodup.sublist (hsub.map _) h.ids,
                  idlt := fun p hp => h.idlt p (hsub.subset hp), reply := fun p hp hs => h.reply p (hsub.subset hp) hs,
                  alive := ?_ }
  rcases hal with hn | ⟨p, hp, hne⟩
  · right; exact hn
  · left
    obtain ⟨e, he, rfl⟩ := List.mem_map.mp hp
    have : (e.id, e.kind) ∈ evK (c.act (.ackEv id)) := by
      simp only [evK, act_ackEv_evq]
      refine List.mem_map.mpr ⟨e, List.mem_filter.mpr ⟨he, ?_⟩, rfl⟩
      simp [ackP, hne]
    exact List.ne_nil_of_mem this

theorem Dur.ackRp {K : EvKind → Prop} {c : Cfg} (h : Dur K c) {corr : Nat}
    (hno : ∀ p ∈ evK c, p.1 ≠ corr) : Dur K (c.act (.ackRp corr)) := by
  have hsub : (rpC (c.act (.ackRp corr))).Sublist (rpC c) := by
    simp only [rpC, Cfg.act]
    exact (removeFirst_sublist _ _).map _
  refine { h with corrnd := List.Nodup.sublist hsub h.corrnd, corrsent := fun x hx => h.corrsent x (hsub.subset hx),
                  reply := ?_ }
  intro p hp hs
  obtain ⟨a, b⟩ := h.reply p hp hs
  refine ⟨a, ?_⟩
  obtain ⟨r, hr, hrc⟩ := List.mem_map.mp b
  simp only [rpC, Cfg.act]
  refine List.mem_map.mpr ⟨r, mem_removeFirst_of_false hr ?_, hrc⟩
  have : r.corr ≠ corr := by rw [hrc]; exact hno p hp
  simp [this]

/-- what a broker operation needs for `Dur` to survive it -/
def actPre (K : EvKind → Prop) (c : Cfg) : Act → Prop
  | .pubEv k => K k
  | .pubReq id => (∃ p ∈ evK c, p.1 = id ∧ isTaskKind p.2 = true) ∧ id ∉ c.sent
  | .note _ => True
  | .ackEv id => 1 ≤ c.notes ∨ ∃ p ∈ evK c, p.1 ≠ id
  | .ackRp corr => ∀ p ∈ evK c, p.1 ≠ corr
  | _ => False

/-- a handler's broker operations are in an order that loses nothing at any cut -/
def ok (K : EvKind → Prop) : Cfg → List Act → Prop
  | _, [] => True
  | c, a :: r => actPre K c a ∧ ok K (c.act a) r

theorem Dur.act {K : EvKind → Prop} {c : Cfg} (h : Dur K c) {a : Act} (hp : actPre K c a) : Dur K (c.act a) := by
  cases a with
  | pubEv k => exact h.pubEv hp
  | pubReq id => exact h.pubReq hp.1 hp.2
  | note b => exact h.note b
  | ackEv id => exact h.ackEv hp
  | ackRp corr => exact h.ackRp hp
  | _ => exact False.elim hp

theorem Dur.take {K : EvKind → Prop} {acts : List Act} {c : Cfg} (h : Dur K c) (hok : ok K c acts) (k : Nat) :
    Dur K ((acts.take k).foldl Cfg.act c) := by
  induction acts generalizing c k with
  | nil => simpa using h
  | cons a r ih =>
    cases k with
    | zero => simpa using h
    | succ k =>
      simp only [List.take_succ_cons, List.foldl_cons]
      exact ih (h.act hok.1) hok.2 k

theorem Dur.all {K : EvKind → Prop} {acts : List Act} {c : Cfg} (h : Dur K c) (hok : ok K c acts) :
    Dur K (acts.foldl Cfg.act c) := by
  simpa using h.take hok acts.length

theorem Dur.handler {K : EvKind → Prop} {acts : List Act} {c : Cfg} (h : Dur K c) (hok : ok K c acts) (v : Vol)
    (cut : Option Nat) : Dur K (c.handler acts v cut) := by
  cases cut with
  | none => exact (h.all hok).withVol v
  | some k => exact (h.take hok k).crash

def uEv (l : List QEv) : List Nat := (l.filter (·.unacked)).map (·.id)
def uRp (l : List QRp) : List Nat := (l.filter (·.unacked)).map (·.corr)
def heldE (js : List Join) : List Nat := js.flatMap (fun j => j.heldEv.map (·.2))
def heldR (js : List Join) : List Nat := js.flatMap (·.heldRp)

@[simp] theorem uEv_append (a b : List QEv) : uEv (a ++ b) = uEv a ++ uEv b := by simp [uEv]
@[simp] theorem uEv_nil : uEv [] = [] := rfl
theorem uEv_cons (m : QEv) (l : List QEv) : uEv (m :: l) = if m.unacked then m.id :: uEv l else uEv l := by
  simp [uEv, List.filter_cons]; split <;> simp
@[simp] theorem uRp_append (a b : List QRp) : uRp (a ++ b) = uRp a ++ uRp b := by simp [uRp]
@[simp] theorem uRp_nil : uRp [] = [] := rfl
theorem uRp_cons (m : QRp) (l : List QRp) : uRp (m :: l) = if m.unacked then m.corr :: uRp l else uRp l := by
  simp [uRp, List.filter_cons]; split <;> simp
@[simp] theorem heldE_nil : heldE [] = [] := rfl
@[simp] theorem heldR_nil : heldR [] = [] := rfl

theorem mem_uEv {l : List QEv} {x : Nat} : x ∈ uEv l ↔ ∃ e ∈ l, e.unacked = true ∧ e.id = x := by
  simp [uEv, and_assoc]

theorem mem_uRp {l : List QRp} {x : Nat} : x ∈ uRp l ↔ ∃ e ∈ l, e.unacked = true ∧ e.corr = x := by
  simp [uRp, and_assoc]

theorem Dur.uEv_lt {K : EvKind → Prop} {c : Cfg} (h : Dur K c) : ∀ x ∈ uEv c.evq, x < c.nextId := fun x hx => by
  obtain ⟨e, he, _, rfl⟩ := mem_uEv.mp hx
  exact h.idlt _ (mem_evK he)

structure VolI (c : Cfg) : Prop where
  tnd : c.timers.Nodup
  pnd : c.pending.Nodup
  ond : c.orphans.Nodup
  t_sub : ∀ t ∈ c.timers, t ∈ uEv c.evq
  p_sub : ∀ p ∈ c.pending, p ∈ uEv c.evq ∧ p ∈ c.sent
  o_sub : ∀ o ∈ c.orphans, o ∈ uRp c.rpq
  he_sub : ∀ x ∈ heldE c.joins, x ∈ uEv c.evq
  hr_sub : ∀ x ∈ heldR c.joins, x ∈ uRp c.rpq
  u_ev : ∀ x ∈ uEv c.evq, x ∈ c.timers ∨ x ∈ c.pending ∨ x ∈ heldE c.joins
  u_rp : ∀ x ∈ uRp c.rpq, x ∈ c.orphans ∨ x ∈ heldR c.joins
  t_kind : ∀ e ∈ c.evq, e.id ∈ c.timers → timerKind e.kind = true
  p_kind : ∀ e ∈ c.evq, e.id ∈ c.pending → isTaskKind e.kind = true
  tp : ∀ t ∈ c.timers, t ∉ c.pending

theorem uEv_crash (c : Cfg) : uEv c.crash.evq = [] := by
  simp only [uEv, Cfg.crash, List.map_eq_nil_iff, List.filter_eq_nil_iff]
  intro e he
  obtain ⟨m, _, rfl⟩ := List.mem_map.mp he
  split
  · exact Bool.false_ne_true
  · assumption

theorem uRp_crash (c : Cfg) : uRp c.crash.rpq = [] := by
  simp only [uRp, Cfg.crash, List.map_eq_nil_iff, List.filter_eq_nil_iff]
  intro e he
  obtain ⟨m, _, rfl⟩ := List.mem_map.mp he
  split
  · exact Bool.false_ne_true
  · assumption

theorem VolI.nil {c : Cfg} (hE : uEv c.evq = []) (hR : uRp c.rpq = []) (hT : c.timers = []) (hP : c.pending = [])
    (hO : c.orphans = []) (hE' : heldE c.joins = []) (hR' : heldR c.joins = []) : VolI c := by
  constructor <;> simp [hE, hR, hT, hP, hO, hE', hR']

theorem VolI.idle {c : Cfg} (h : VolI c) (hev : c.evq = []) : c.timers = [] ∧ c.pending = [] :=
  ⟨List.eq_nil_iff_forall_not_mem.mpr fun t ht => List.not_mem_nil (hev ▸ h.t_sub t ht),
    List.eq_nil_iff_forall_not_mem.mpr fun p hp => List.not_mem_nil (hev ▸ (h.p_sub p hp).1)⟩

theorem VolI.idleRp {c : Cfg} (h : VolI c) (hrp : c.rpq = []) : c.orphans = [] :=
  List.eq_nil_iff_forall_not_mem.mpr fun o ho => List.not_mem_nil (hrp ▸ h.o_sub o ho)

theorem VolI.crash (c : Cfg) : VolI c.crash :=
  VolI.nil (uEv_crash c) (uRp_crash c) rfl rfl rfl rfl rfl

end Asl.Crash
