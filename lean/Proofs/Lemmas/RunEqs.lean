/-
The paths through `runState`, `leave`, `handleErr` and `joinAndLeave` (AslModel/Interp.lean) that the properties
speak of: what is left of the function body once the checks that come first are decided.  A size check of which both
outcomes are needed stays an `if`, the execution's deadline a `match`.
-/
import AslModel.Interp
namespace Asl

theorem S_inj {a b : String} : S a = S b ↔ a = b := String.toList_inj

variable {env : Env} {fuel : Nat} {states : Json} {name : Str} {state data ctx : Json} {retries : Nat} {st : St}

theorem runState_succeed_eq {input out : Json} (h : stateType state = S "Succeed")
    (hi : applyPath data ctx (pathArg state "InputPath") = .ok input)
    (ho : applyPath input ctx (pathArg state "OutputPath") = .ok out) :
    runState env (fuel + 1) states name state data ctx retries st =
      if (render out).length > env.maxData then
        handleErr env fuel states name state data ctx retries (S "States.DataLimitExceeded") (S "m") st
      else (.done out, st.exit (stateType state) name out) := by
  unfold runState
  simp only [h, S_inj, String.reduceEq, ↓reduceIte, hi, ho]

theorem runState_wait_eq {input : Json} {target : Rat} (h : stateType state = S "Wait")
    (hi : applyPath data ctx (pathArg state "InputPath") = .ok input)
    (ht : waitTarget env state input ctx st.clock = .ok target) :
    runState env (fuel + 1) states name state data ctx retries st =
      match execCut env.deadline (rmax st.clock target) with
      | some dl => handleErr env fuel states name state data ctx retries execTimeoutName (S "m") (st.closeKeep.waitUntil dl)
      | none =>
        match applyPath input ctx (pathArg state "OutputPath") with
        | .error pe => handleErr env fuel states name state data ctx retries (errName pe) (S "m") (st.closeKeep.waitUntil target)
        | .ok out => leave env fuel states name state data out ctx retries (st.closeKeep.waitUntil target) := by
  unfold runState
  simp only [h, S_inj, String.reduceEq, ↓reduceIte, hi, ht]
  rfl

/-- `timedOut`: the invocation ends at `tEnd` by a time limit; `st1`: the request is filed, and the outcome's event unless
the limit was the execution's alone -/
theorem runState_task_eq {fn : Str} {input params : Json} {tEnd : Rat} {timedOut : Bool} {own : Option Rat}
    (h : stateType state = S "Task")
    (hr : rpcFunction ((fldStr state "Resource").getD []) = some fn)
    (hi : applyPath data ctx (pathArg state "InputPath") = .ok input)
    (hp : tmplOpt env input ctx (fld state "Parameters") = .ok params)
    (hown : taskOwnDeadline state data ctx st.clock = .ok own)
    (ha : taskArrival (env.delay fn params (bump st.counts (fn, params)).1)
        ((taskLimit own env.deadline st.clock).map (·.t)) st.clock = some (tEnd, timedOut)) :
    runState env (fuel + 1) states name state data ctx retries st =
      let lim := taskLimit own env.deadline st.clock
      let reply := env.task fn params (bump st.counts (fn, params)).1
      let byTask := timedOut && (lim.map (·.task)).getD true
      let byExec := timedOut && (lim.map (·.exec)).getD false
      let st1 := if timedOut && !byTask then
          (st.closeKeep.request true).taskSilent (bump st.counts (fn, params)).2 ((fldStr state "Resource").getD []) params tEnd
        else (st.closeKeep.request timedOut).taskCall (bump st.counts (fn, params)).2 ((fldStr state "Resource").getD []) params
          (taskEv env.maxData reply timedOut) tEnd
      match (if byExec then TaskOut.err execTimeoutName (S "m") else taskOutcome env.maxData reply timedOut) with
      | .err e msg => handleErr env fuel states name state data ctx retries e msg st1
      | .ok v =>
        match tmplOpt env v ctx (fld state "ResultSelector") with
        | .error pe => handleErr env fuel states name state data ctx retries (errName pe) (S "m") st1
        | .ok result =>
          match mergeResult data ctx result state with
          | .error pe => handleErr env fuel states name state data ctx retries (errName pe) (S "m") st1
          | .ok out => leave env fuel states name state data out ctx retries st1 := by
  unfold runState
  simp only [h, S_inj, String.reduceEq, ↓reduceIte, hr, hi, hp, St.closeKeep_clock, St.closeKeep_counts, hown, ha]
  rfl

theorem runState_task_answered_eq {fn : Str} {input params : Json} {tEnd : Rat} {own : Option Rat}
    (h : stateType state = S "Task")
    (hr : rpcFunction ((fldStr state "Resource").getD []) = some fn)
    (hi : applyPath data ctx (pathArg state "InputPath") = .ok input)
    (hp : tmplOpt env input ctx (fld state "Parameters") = .ok params)
    (hown : taskOwnDeadline state data ctx st.clock = .ok own)
    (ha : taskArrival (env.delay fn params (bump st.counts (fn, params)).1)
        ((taskLimit own env.deadline st.clock).map (·.t)) st.clock = some (tEnd, false)) :
    runState env (fuel + 1) states name state data ctx retries st =
      let reply := env.task fn params (bump st.counts (fn, params)).1
      let st1 := (st.closeKeep.request false).taskCall (bump st.counts (fn, params)).2 ((fldStr state "Resource").getD []) params
        (replyEv env.maxData reply) tEnd
      match taskReply env.maxData reply with
      | .err e msg => handleErr env fuel states name state data ctx retries e msg st1
      | .ok v =>
        match tmplOpt env v ctx (fld state "ResultSelector") with
        | .error pe => handleErr env fuel states name state data ctx retries (errName pe) (S "m") st1
        | .ok result =>
          match mergeResult data ctx result state with
          | .error pe => handleErr env fuel states name state data ctx retries (errName pe) (S "m") st1
          | .ok out => leave env fuel states name state data out ctx retries st1 := by
  rw [runState_task_eq h hr hi hp hown ha]
  rfl

/-! `leave`: `data` is the raw input the state was entered with, `out` its output -/

theorem leave_end_eq {out : Json} (hE : isTrue (fld state "End") = true) :
    leave env (fuel + 1) states name state data out ctx retries st =
      if (render out).length > env.maxData then
        handleErr env fuel states name state data ctx retries (S "States.DataLimitExceeded") (S "m") st
      else (.done out, st.exit (stateType state) name out) := by
  unfold leave
  simp only [hE, ↓reduceIte]

theorem leave_next_eq {out : Json} {next : Str} (hE : isTrue (fld state "End") = false) (hN : fldStr state "Next" = some next) :
    leave env (fuel + 1) states name state data out ctx retries st =
      if (render out).length > env.maxData then
        handleErr env fuel states name state data ctx retries (S "States.DataLimitExceeded") (S "m") st
      else runFrom env fuel states next out ctx 0 ((st.exit (stateType state) name out).handover next) := by
  unfold leave
  simp only [hE, hN, Bool.false_eq_true, ↓reduceIte]

theorem leave_no_next_eq {out : Json} (hE : isTrue (fld state "End") = false) (hN : fldStr state "Next" = none) :
    leave env (fuel + 1) states name state data out ctx retries st =
      handleErr env fuel states name state data ctx retries (S "States.Runtime") (S "m") st := by
  unfold leave
  simp only [hE, hN, Bool.false_eq_true, ↓reduceIte]

theorem handleErr_uncaught_eq {e msg : Str}
    (h : decideError ((listOf (fld state "Retry")).map retrierOf) ((listOf (fld state "Catch")).map catcherOf) e retries = .uncaught) :
    handleErr env (fuel + 1) states name state data ctx retries e msg st =
      (.failed e (causeOf msg) false, (if e = execTimeoutName then st else st.fanFailedIf state).failTok) := by
  unfold handleErr
  simp only [h]

theorem handleErr_retry_eq {e msg : Str} {d : Rat} {k : Nat}
    (h : decideError ((listOf (fld state "Retry")).map retrierOf) ((listOf (fld state "Catch")).map catcherOf) e retries = .retry d k) :
    handleErr env (fuel + 1) states name state data ctx retries e msg st =
      match env.retryCut (st.retryAfter name d).clock with
      | some dl =>
        (.failed execTimeoutName (some (.str (S "<cause>"))) false, (((st.handover name).closeKeep).waitUntil dl).failTok)
      | none => runFrom env fuel states name data ctx k (st.retryAfter name d) := by
  unfold handleErr
  simp only [h]
  rfl

theorem handleErr_caught_eq {e msg next : Str} {c : Catcher} {data' : Json}
    (h : decideError ((listOf (fld state "Retry")).map retrierOf) ((listOf (fld state "Catch")).map catcherOf) e retries = .caught c)
    (hn : c.next = some next)
    (hp : applyResultPath data (errorOutput e (causeOf msg)) (match c.resultPath with | none => some ['$'] | some p => p) = .ok data')
    (hl : (render data').length ≤ env.maxData) :
    handleErr env (fuel + 1) states name state data ctx retries e msg st =
      runFrom env fuel states next data' ctx 0 (((st.fanFailedIf state).exit (stateType state) name data').handover next) := by
  unfold handleErr
  simp only [h, hn]
  -- the placement in the body is the one of `hp`
  split
  · rename_i heq
    cases heq.symm.trans hp
  · rename_i heq
    cases heq.symm.trans hp
    rw [if_neg (Nat.not_lt.mpr hl)]

theorem joinAndLeave_ok_eq {results : List Json} {result out : Json}
    (hs : tmplOpt env (.arr results) ctx (fld state "ResultSelector") = .ok result)
    (hm : mergeResult data ctx result state = .ok out) :
    joinAndLeave env (fuel + 1) states name state data ctx retries (.ok results) st =
      leave env fuel states name state data out ctx retries st := by
  unfold joinAndLeave
  simp only [hs, hm]

theorem joinAndLeave_failed_eq {e : Str} {c : Option Json} {f : Bool} :
    joinAndLeave env (fuel + 1) states name state data ctx retries (.error (.failed e c f)) st =
      handleErr env fuel states name state data ctx retries e (if isTrue c then S "m" else [])
        { st with fanFail := st.fanFail || decide (e ≠ execTimeoutName) } :=
  rfl

theorem fanCombine_ok {r : Res} {t : Rat} {rest : Except Res (List Json)} {st2 st' : St} {tOk : Rat} {vs : List Json}
    (h : fanCombine r t rest st2 tOk = (.ok vs, st')) :
    ∃ v vs', r = .done v ∧ rest = .ok vs' ∧ vs = v :: vs' ∧ st' = st2.at tOk := by
  revert h
  fun_cases fanCombine r t rest st2 tOk
  · intro h
    cases h
    exact ⟨_, _, rfl, rfl, rfl, rfl⟩
  all_goals exact nofun

theorem runBranches_cons_ok {b : Json} {bs : List Json} {params : Json} {vs : List Json} {st' : St} :
    runBranches env (fuel + 1) (b :: bs) params ctx st = (.ok vs, st') ↔
    ∃ start states v vs' s1 s2, fldStr b "StartAt" = some start ∧ fld b "States" = some states ∧
      runFrom env fuel states start params ctx 0 st.startBranch = (.done v, s1) ∧
      runBranches env fuel bs params ctx ((s1.endBranch false).at st.clock) = (.ok vs', s2) ∧
      vs = v :: vs' ∧ st' = s2.at (rmax s1.clock s2.clock) := by
  constructor
  · intro h
    unfold runBranches at h
    split at h
    · rename_i start states hs hst
      obtain ⟨v, vs', e1, e2, e3, e4⟩ := fanCombine_ok h
      rw [e1] at e2 e4
      exact ⟨start, states, v, vs', _, _, hs, hst, Prod.ext e1 rfl, Prod.ext e2 rfl, e3, e4⟩
    · cases h
  · rintro ⟨start, states, v, vs', s1, s2, hs, hst, hr, hrest, rfl, rfl⟩
    unfold runBranches fanCombine
    simp [hs, hst, hr, hrest, isFailed]

/-- only what `C01.map_results_in_item_order` needs: one direction, without the final state, and with `st0` (`st`, or `st`
after a batch boundary) left open -/
theorem runItems_cons_ok {proc : Json} {sel : Option Json} {input item : Json} {items : List Json} {i mc : Nat} {be : Rat}
    {vs : List Json} {st' : St}
    (h : runItems env (fuel + 1) proc sel input (item :: items) i mc be ctx false st = (.ok vs, st')) :
    ∃ st0 : St, ∃ start states params v vs' s1 s2, fldStr proc "StartAt" = some start ∧ fld proc "States" = some states ∧
      (if isTrue sel then tmplOpt env input (ctxWithMapItem ctx i item) sel else .ok item) = .ok params ∧
      runFrom env fuel states start params ctx 0 ((st0.push (.iterStarted (ctxStateName ctx) i)).startBranch) = (.done v, s1) ∧
      runItems env fuel proc sel input items (i + 1) mc (rmax be s1.clock) ctx false ((s1.endBranch false).at st0.clock) =
        (.ok vs', s2) ∧ vs = v :: vs' := by
  unfold runItems at h
  rw [if_neg (by simp)] at h
  generalize (if mc ≠ 0 ∧ i ≠ 0 ∧ i % mc = 0 then St.batch _ _ _ else st) = st0 at h
  generalize hp : (if isTrue sel then tmplOpt env input (ctxWithMapItem ctx i item) sel else Except.ok item) = pe at h
  cases pe with
  | error e => cases h
  | ok params =>
    split at h
    · rename_i start states hs hst
      obtain ⟨v, vs', e1, e2, e3, _⟩ := fanCombine_ok h
      rw [e1] at e2
      exact ⟨_, start, states, params, v, vs', _, _, hs, hst, rfl, Prod.ext e1 rfl, Prod.ext e2 rfl, e3⟩
    · cases h

theorem runCore_eq {fuel : Nat} {asl input ctx states : Json} {start : Str}
    (h1 : fldStr asl "StartAt" = some start) (h2 : fld asl "States" = some states) :
    runCore env fuel asl input ctx = runFrom (env.forMachine asl) fuel states start input ctx 0 {} := by
  simp only [runCore, h1, h2]

theorem Outcome.ofRun_status (input : Json) (r : Res) (st : St) :
    ((Outcome.ofRun input r st).status = S "SUCCEEDED" ↔ ∃ d, r = .done d) ∧
    ((Outcome.ofRun input r st).status = S "FAILED" ↔ ∃ e c f, r = .failed e c f) ∧
    ((Outcome.ofRun input r st).status = S "FUEL" ↔ r = .fuel) ∧
    ((Outcome.ofRun input r st).status = S "UNSUPPORTED" ↔ ∃ w, r = .unsupported w) := by
  unfold Outcome.ofRun
  cases r <;> simp [S_inj]

theorem run_ended {fuel : Nat} {asl input ctx : Json}
    (h : (run env fuel asl input ctx).status = S "SUCCEEDED" ∨ (run env fuel asl input ctx).status = S "FAILED") :
    (∃ d, (runCore env fuel asl input ctx).1 = .done d) ∨ (∃ e c f, (runCore env fuel asl input ctx).1 = .failed e c f) :=
  h.imp (Outcome.ofRun_status ..).1.mp (Outcome.ofRun_status ..).2.1.mp

end Asl
