/- a Map's launch protocol (`MapSt`) -/
import AslModel.Join
import Proofs.Lemmas.Join
namespace Asl

theorem rangeFrom_eq_range' (a b : Nat) : rangeFrom a b = List.range' a (b - a) := by
  simp [rangeFrom, List.range'_eq_map_range, Nat.add_comm]

theorem mem_rangeFrom (a b i : Nat) : i ∈ rangeFrom a b ↔ a ≤ i ∧ i < b := by
  rw [rangeFrom_eq_range', List.mem_range'_1]; omega

theorem rangeFrom_nodup (a b : Nat) : (rangeFrom a b).Nodup := by
  rw [rangeFrom_eq_range']; exact List.nodup_range' 1

@[simp] theorem rangeFrom_length (a b : Nat) : (rangeFrom a b).length = b - a := by simp [rangeFrom]

theorem rangeFrom_append (a b c : Nat) (h1 : a ≤ b) (h2 : b ≤ c) :
    rangeFrom a b ++ rangeFrom b c = rangeFrom a c := by
  rw [rangeFrom_eq_range', rangeFrom_eq_range', rangeFrom_eq_range', ← Nat.sub_add_sub_cancel h2 h1, Nat.add_comm (c - b),
    ← List.range'_append_1, Nat.add_sub_cancel' h1]

theorem batchEnd_ge (n m start : Nat) (h : start ≤ n) : start ≤ batchEnd n m start ∧ batchEnd n m start ≤ n := by
  unfold batchEnd
  split
  · exact ⟨h, Nat.le_refl n⟩
  · exact ⟨Nat.le_min.2 ⟨Nat.le_add_right _ _, h⟩, Nat.min_le_right _ _⟩

theorem batchEnd_gt (n m start : Nat) (hm : 0 < m) (hs : start < n) : start < batchEnd n m start := by
  unfold batchEnd
  rw [if_neg (Nat.ne_of_gt hm)]
  exact Nat.lt_min.2 ⟨Nat.lt_add_of_pos_right hm, hs⟩

theorem batchEnd_sub (n m start : Nat) (hm : 0 < m) : batchEnd n m start - start ≤ m := by
  unfold batchEnd
  rw [if_neg (Nat.ne_of_gt hm)]
  exact Nat.sub_le_of_le_add (Nat.add_comm m start ▸ Nat.min_le_left _ _)

structure MapInv (st : MapSt) : Prop where
  start_le : st.start ≤ st.n
  launched_eq : st.launched = rangeFrom 0 (batchEnd st.n st.m st.start)
  before_filled : ∀ i, i < st.start → ∃ w, st.slots[i]? = some (some w)
  len : st.slots.length = st.n

theorem MapInv.init (n m : Nat) : MapInv (MapSt.init n m) where
  start_le := by simp [MapSt.init]
  launched_eq := by simp [MapSt.init]
  before_filled := by intro i hi; simp [MapSt.init] at hi
  len := by simp [MapSt.init]

theorem filledIn_spec (s : Slots) (a b : Nat) (h : filledIn s a b = true) (i : Nat) (h1 : a ≤ i) (h2 : i < b) :
    ∃ w, s[i]? = some (some w) := by
  obtain ⟨w, hw⟩ := Option.isSome_iff_exists.mp (List.all_eq_true.mp h i ((mem_rangeFrom a b i).mpr ⟨h1, h2⟩))
  exact ⟨w, Option.join_eq_some_iff.mp hw⟩

theorem MapInv.complete (st : MapSt) (i : Nat) (v : Json) (h : MapInv st) : MapInv (st.complete i v) := by
  have hkeep := Join.record_keeps_filled st.slots i v
  unfold MapSt.complete
  simp only
  split
  · rename_i hc
    rw [Bool.and_eq_true] at hc
    obtain ⟨hf, hlt⟩ := hc
    have hlt' : batchEnd st.n st.m st.start < st.n := of_decide_eq_true hlt
    have hb2 := batchEnd_ge st.n st.m (batchEnd st.n st.m st.start) (Nat.le_of_lt hlt')
    exact {
      start_le := Nat.le_of_lt hlt'
      launched_eq := by
        simp only [h.launched_eq]
        exact rangeFrom_append 0 _ _ (Nat.zero_le _) hb2.1
      before_filled := by
        intro j hj
        simp only at hj ⊢
        by_cases hjs : j < st.start
        · exact hkeep j (h.before_filled j hjs)
        · exact filledIn_spec _ _ _ hf j (Nat.le_of_not_lt hjs) hj
      len := by simp [h.len] }
  · exact {
      start_le := h.start_le
      launched_eq := h.launched_eq
      before_filled := fun j hj => hkeep j (h.before_filled j hj)
      len := by simp [h.len] }

theorem MapInv.fold (n m : Nat) (cs : List (Nat × Json)) :
    MapInv (cs.foldl (fun st c => st.complete c.1 c.2) (MapSt.init n m)) :=
  List.foldlRecOn cs _ (MapInv.init n m) (fun st h c _ => MapInv.complete st c.1 c.2 h)

theorem MapInv.fold_params (n m : Nat) (cs : List (Nat × Json)) :
    (cs.foldl (fun st c => st.complete c.1 c.2) (MapSt.init n m)).n = n ∧
    (cs.foldl (fun st c => st.complete c.1 c.2) (MapSt.init n m)).m = m := by
  refine List.foldlRecOn (motive := fun st : MapSt => st.n = n ∧ st.m = m) cs _ ⟨rfl, rfl⟩ (fun st h c _ => ?_)
  unfold MapSt.complete
  simp only
  split <;> exact h

theorem MapInv.inflight_le (st : MapSt) (h : MapInv st) (hm : 0 < st.m) : st.inFlight ≤ st.m := by
  unfold MapSt.inFlight
  have hb := batchEnd_ge st.n st.m st.start h.start_le
  rw [h.launched_eq, ← rangeFrom_append 0 st.start _ (Nat.zero_le _) hb.1, List.filter_append, List.length_append]
  have h1 : (List.filter (fun i => (st.slots[i]?).join.isNone) (rangeFrom 0 st.start)) = [] := by
    rw [List.filter_eq_nil_iff]
    intro i hi
    obtain ⟨w, hw⟩ := h.before_filled i ((mem_rangeFrom 0 st.start i).mp hi).2
    simp [hw]
  rw [h1, List.length_nil]
  have h2 := List.length_filter_le (fun i => (st.slots[i]?).join.isNone) (rangeFrom st.start (batchEnd st.n st.m st.start))
  have h3 := batchEnd_sub st.n st.m st.start hm
  rw [rangeFrom_length] at h2
  omega

end Asl
