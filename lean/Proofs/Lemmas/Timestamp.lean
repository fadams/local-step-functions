/-
RFC 3339 layer: the printer/parser round trip and the arithmetic of instants.
(Theorems of properties C14 and C08; re-exported by Proofs/C08.lean.)
-/
import AslModel.Timestamp
namespace Asl.TsLemmas

theorem digitVal_digitChar : ∀ n, n < 10 → digitVal (digitChar n) = some n := by decide

theorem take2_pad2 (n : Nat) (h : n < 100) (rest : Str) :
    take2 (pad2 n ++ rest) = some (n, rest) := by
  have h1 : n / 10 < 10 := by omega
  have h2 : n % 10 < 10 := by omega
  simp [take2, pad2, digitVal_digitChar _ h1, digitVal_digitChar _ h2, Nat.div_add_mod']

theorem take4_pad4 (n : Nat) (h : n < 10000) (rest : Str) :
    take4 (pad4 n ++ rest) = some (n, rest) := by
  have h1 : n / 1000 < 10 := by omega
  have hd (k : Nat) : k % 10 < 10 := Nat.mod_lt _ (by decide)
  have h5 : n / 1000 * 1000 + n / 100 % 10 * 100 + n / 10 % 10 * 10 + n % 10 = n := by omega
  simp [take4, pad4, digitVal_digitChar _ h1, digitVal_digitChar _ (hd _), h5]

theorem take2_pad2_nil (n : Nat) (h : n < 100) : take2 (pad2 n) = some (n, []) := by
  have := take2_pad2 n h []
  simpa using this

theorem expect_cons (c : Char) (rest : Str) : expect c (c :: rest) = some rest := by
  simp [expect]

theorem takeDigitsN_map (ds : List Nat) (h : allLt10 ds = true) (c : Char) (rest : Str)
    (hc : digitVal c = none) :
    takeDigitsN (ds.map digitChar ++ c :: rest) = (ds, c :: rest) := by
  induction ds with
  | nil => simp [takeDigitsN, hc]
  | cons d ds ih =>
    simp [allLt10] at h
    simp [takeDigitsN, digitVal_digitChar d h.1, ih h.2]

theorem parseFrac_print (ds : List Nat) (h : allLt10 ds = true) (hl : ds.length ≤ 6)
    (c : Char) (rest : Str) (hc : digitVal c = none) (hdot : c ≠ '.') :
    parseFrac (printFrac ds ++ c :: rest) = some (ds, c :: rest) := by
  cases ds with
  | nil => simp [printFrac, parseFrac, hdot]
  | cons d ds =>
    have := takeDigitsN_map (d :: ds) h c rest hc
    simp only [printFrac, List.cons_append, parseFrac]
    simp only [List.map_cons, List.cons_append] at this
    simp [this]
    simpa using hl

theorem parseOff_print (z : Bool) (off : Int) (h1 : -1439 ≤ off) (h2 : off ≤ 1439)
    (hz : z = true → off = 0) : parseOff (printOff z off) = some (z, off) := by
  cases z with
  | true => simp [printOff, parseOff, hz rfl]
  | false =>
    have a1 : off.natAbs / 60 < 100 := by omega
    have a2 : off.natAbs % 60 < 100 := by omega
    by_cases hneg : off < 0
    all_goals
      simp [printOff, parseOff, hneg, take2_pad2 _ a1, take2_pad2_nil _ a2, expect_cons]
      omega

theorem printOff_head (z : Bool) (off : Int) :
    ∃ c rest, printOff z off = c :: rest ∧ digitVal c = none ∧ c ≠ '.' := by
  unfold printOff
  split
  · exact ⟨'Z', [], rfl, by decide⟩
  · refine ⟨_, _, rfl, ?_⟩
    split <;> decide

/-- **parse ∘ print = id** on every timestamp record of the grammar: any date, any fraction
(0 to 6 digits), every offset −23:59 … +23:59, and the `Z` form. -/
theorem parse_print_rfc3339 (t : Ts) (h : t.ok = true) : parseTs (printTs t) = some t := by
  obtain ⟨y, mo, d, hr, mi, s, fr, off, z⟩ := t
  have hk := h
  simp only [Ts.ok, Bool.and_eq_true, decide_eq_true_eq, Bool.or_eq_true, Bool.not_eq_true'] at hk
  -- in the order of `Ts.ok`: windows of year, month, day; hour, minute, second; fraction (length, digits); offset window; zulu
  obtain ⟨⟨⟨⟨⟨⟨⟨⟨⟨⟨⟨⟨⟨hy1, hy2⟩, hm1⟩, hm2⟩, hd1⟩, hd2⟩, hh⟩, hmi⟩, hs⟩, hfl⟩, hfd⟩, ho1⟩, ho2⟩, hz⟩ := hk
  have hdim : daysInMonth y mo ≤ 31 := by fun_cases daysInMonth y mo <;> omega
  obtain ⟨c, rest, hoff, hc, hdot⟩ := printOff_head z off
  have hzz : z = true → off = 0 := fun hzt => hz.resolve_left (by simp [hzt])
  have hfrac := parseFrac_print fr hfd hfl c rest hc hdot
  have hpo := parseOff_print z off ho1 ho2 hzz
  rw [hoff] at hpo
  simp only [parseTs, printTs, hoff, take4_pad4 y (by omega), take2_pad2 mo (by omega), take2_pad2 d (by omega),
    take2_pad2 hr (by omega), take2_pad2 mi (by omega), take2_pad2 s (by omega), expect_cons,
    Option.bind_eq_bind, Option.bind_some, hfrac, hpo, h, if_true]

/-- **every legal notation denotes its true instant**: the instant of a timestamp written
with offset `off` (minutes east of UTC) is the instant of the same wall-clock fields read
as UTC, minus `off` minutes — for all offsets, by arithmetic. -/
theorem instant_offset (t : Ts) :
    t.instant = ({ t with off := 0 } : Ts).instant - 60 * 10 ^ 6 * t.off := by
  simp [Ts.instant, Ts.localMicros]

/-- the `Z` form and `+00:00` denote the same instant -/
theorem instant_zulu (t : Ts) : ({ t with zulu := true } : Ts).instant = t.instant := by
  simp [Ts.instant, Ts.localMicros]

/-- the same instant written in another zone: moving the wall clock forward by `m` minutes
and the offset east by `m` minutes changes nothing (stated on the minute field). -/
theorem instant_shift_minutes (t : Ts) (m : Nat) :
    ({ t with minute := t.minute + m, off := t.off + m } : Ts).instant = t.instant := by
  simp only [Ts.instant, Ts.localMicros]
  omega

/-! ### days-from-civil counts days: three successor laws that determine it from the epoch -/

theorem days_epoch : daysFromCivil 1970 1 1 = 0 := by decide

theorem days_next_day (y m d : Nat) : daysFromCivil y m (d + 1) = daysFromCivil y m d + 1 := by
  simp only [daysFromCivil]
  omega

theorem days_next_month (y m : Nat) (h1 : 1 ≤ m) (h2 : m < 12) :
    daysFromCivil y (m + 1) 1 = daysFromCivil y m (daysInMonth y m) + 1 := by
  have hm : m = 1 ∨ m = 2 ∨ m = 3 ∨ m = 4 ∨ m = 5 ∨ m = 6 ∨ m = 7 ∨ m = 8 ∨ m = 9 ∨ m = 10 ∨ m = 11 := by
    omega
  rcases hm with h | h | h | h | h | h | h | h | h | h | h <;> subst h <;>
    simp [daysFromCivil, daysInMonth, isLeap] <;> (try split) <;> omega

theorem days_next_year (y : Nat) :
    daysFromCivil (y + 1) 1 1 = daysFromCivil y 12 31 + 1 := by
  simp [daysFromCivil]
  omega

end Asl.TsLemmas
