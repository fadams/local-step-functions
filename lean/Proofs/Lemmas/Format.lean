/- `States.Format`: splitting a printed template gives its chunks back; joining them with the arguments interleaves the two. -/
import AslModel.Intrinsic
namespace Asl

/-- a literal chunk as it is written in a `States.Format` template: braces escaped -/
def escBraces : Str → Str
  | [] => []
  | c :: cs => if c = '{' ∨ c = '}' then '\\' :: c :: escBraces cs else c :: escBraces cs

/-- chunks `c₀ … cₙ` written as a template with `n` place holders -/
def printTemplate : List Str → Str
  | [] => []
  | [c] => escBraces c
  | c :: d :: rest => escBraces c ++ '{' :: '}' :: printTemplate (d :: rest)

/-- the specification of `States.Format`: chunks and argument texts in turn -/
def interleave : List Str → List Str → Str
  | [], _ => []
  | [c], _ => c
  | c :: d :: rest, a :: as => c ++ a ++ interleave (d :: rest) as
  | c :: _ :: _, [] => c

def notBrace (s : Str) : Prop := ∀ x t, s = x :: t → x ≠ '{' ∧ x ≠ '}'

theorem fmtSplit_esc (s : Str) (h : notBrace s) :
    fmtSplit .esc s = consChunk '\\' (fmtSplit .plain s) := by
  cases s with
  | nil => simp [fmtSplit, consChunk]
  | cons x t =>
    obtain ⟨h1, h2⟩ := h x t rfl
    by_cases hb : x = '\\'
    · subst hb; simp [fmtSplit]
    · simp [fmtSplit, h1, h2, hb]

theorem escBraces_head (c tail : Str) (h : c = [] → notBrace tail) : notBrace (escBraces c ++ tail) := by
  fun_cases escBraces c
  · exact h rfl
  · rintro x t ⟨⟩; decide
  · rintro x t ⟨⟩; exact not_or.mp ‹_›

/-- a backslash ending `c` and a brace starting `tail` would read as an escaped brace -/
theorem fmtSplit_chunk (c : Str) {tail p : Str} {ps : List Str} (ht : fmtSplit .plain tail = some (p :: ps))
    (h : c.getLast? = some '\\' → notBrace tail) :
    fmtSplit .plain (escBraces c ++ tail) = some ((c ++ p) :: ps) := by
  induction c with
  | nil => exact ht
  | cons x xs ih =>
    have ih := ih fun hx => h (by simp [List.getLast?_cons, hx])
    by_cases hb : x = '{' ∨ x = '}'
    · rcases hb with rfl | rfl <;> simp [escBraces, fmtSplit, consChunk, ih]
    · obtain ⟨h1, h2⟩ := not_or.mp hb
      by_cases hs : x = '\\'
      · subst hs
        have hnb := escBraces_head xs tail fun hx => h (by simp [hx])
        simp [escBraces, fmtSplit, consChunk, fmtSplit_esc _ hnb, ih]
      · simp [escBraces, fmtSplit, h1, h2, hs, consChunk, ih]

theorem fmtSplit_printTemplate : ∀ cs : List Str, cs ≠ [] →
    (∀ c ∈ cs.dropLast, c.getLast? ≠ some '\\') →
    fmtSplit .plain (printTemplate cs) = some cs
  | [], h, _ => absurd rfl h
  | [c], _, _ => by
    simpa [printTemplate] using fmtSplit_chunk c (tail := []) rfl (fun _ => nofun)
  | c :: d :: rest, _, hb => by
    have ih := fmtSplit_printTemplate (d :: rest) (by simp)
      (fun e he => hb e (by simp [he]))
    have ht : fmtSplit .plain ('{' :: '}' :: printTemplate (d :: rest)) = some ([] :: d :: rest) := by
      simp [fmtSplit, ih]
    have hc : c.getLast? ≠ some '\\' := hb c (by simp)
    simpa [printTemplate] using fmtSplit_chunk c ht (fun h => absurd h hc)

theorem fmtJoin_interleave (cs as : List Str) (hne : cs ≠ []) (hl : cs.length ≤ as.length + 1) :
    fmtJoin cs as = some (interleave cs as) := by
  fun_induction fmtJoin cs as <;> simp_all [interleave]

end Asl
