/- Every step keeps the caches coherent and within capacity: a cache operation is six moves on the operating client
(`cacheOp_keeps`), any other four moves on the world (`rstep_keeps`). -/
import Proofs.Lemmas.StoreRedis
namespace Asl.Store
open Asl

/-- the operations that work on the operating client's cache alone -/
def cacheOp : Op → Bool
  | .cget _ | .reopen | .deliver => true
  | _ => false

theorem rstep_keeps (P : RWorld → Prop)
    (hDel : ∀ w fk, P w → P (srvDel w fk))
    (hPut : ∀ w fk v, P w → P (srvPut w fk v))
    (hRead : ∀ w c fk, P w → P (setCl w c (remember fk (w.cl c))))
    (hTtl : ∀ (w : RWorld) fk ttl', P w → P (touch { w with ttl := ttl' } fk))
    (q : Quirks) (cfgs : Nat → Cfg) (w : RWorld) (c : Nat) (op : Op) (hop : cacheOp op = false)
    (h : P w) : P (rstep q cfgs w c op).1 := by
  cases op with
  | set k v =>
    dsimp only [rstep]
    split
    · split
      · exact hDel _ _ h
      · exact hPut _ _ _ (hRead _ _ _ (hDel _ _ h))
    · exact h
  | upd k f v | app k v =>
    dsimp only [rstep]
    split
    · exact h
    · split
      · exact hPut _ _ _ h
      · exact h
  | get k | has k | gttl k => exact hRead _ _ _ h
  | del k => exact hDel _ _ h
  | iter | len => exact h
  | ttl k n =>
    dsimp only [rstep]
    split
    · split
      · exact hDel _ _ h
      · exact hTtl _ _ _ h
    · exact h
  | cget k | reopen | deliver => cases hop

theorem cacheOp_keeps (P : Nat → Client → Prop) (q : Quirks) (cfgs : Nat → Cfg) (w : RWorld) (c : Nat) (op : Op)
    (hop : cacheOp op = true)
    (hRead : ∀ fk x, P c x → P c (remember fk x))
    (hOn : ∀ x, P c x → P c { x with on := true, cache := [] })
    (hHit : ∀ x k v, P c x → aGet x.cache k = some v → P c { x with cache := aDel x.cache k ++ [(k, v)] })
    (hMiss : ∀ x k, P c x → pk (cfgs c).pre k ∈ x.tracked →
      P c { x with cache := lruInsert (cfgs c).cap x.cache k (view (cfgs c).isList (aGet w.srv (pk (cfgs c).pre k))) })
    (hFresh : P c Client.fresh)
    (hDrop : ∀ x fk rest, P c x → x.pending = fk :: rest →
      P c { x with cache := aDel x.cache (rmPrefix (cfgs c).pre fk), pending := rest })
    (h : ∀ c', P c' (w.cl c')) : ∀ c', P c' ((rstep q cfgs w c op).1.cl c') := by
  cases op with
  | cget k =>
    dsimp only [rstep]
    split
    · exact setCl_keeps h (hRead _ _ (h c))
    · by_cases hon : (w.cl c).on = true
      · rw [if_pos hon]
        split
        · exact setCl_keeps h (hHit _ k _ (h c) ‹_›)
        · exact setCl_keeps h (hMiss _ k (hRead _ _ (h c)) (remember_tracks _ _ hon))
      · -- tracking starts now, with an empty cache: a miss
        rw [if_neg hon]
        exact setCl_keeps h (hMiss _ k (hRead _ _ (hOn _ (h c))) (remember_tracks _ _ rfl))
  | reopen => exact setCl_keeps h hFresh
  | deliver =>
    dsimp only [rstep]
    split
    · exact h
    · rename_i fk rest hp
      exact setCl_keeps h (hDrop _ fk rest (h c) hp)
  | _ => cases hop

theorem cacheOp_server (q : Quirks) (cfgs : Nat → Cfg) (w : RWorld) (c : Nat) (op : Op)
    (hop : cacheOp op = true) :
    (rstep q cfgs w c op).1.srv = w.srv ∧ (rstep q cfgs w c op).1.ttl = w.ttl := by
  cases op with
  | cget k =>
    -- `simp only`, not `dsimp only`: it leaves `rstep`'s equation lemmas in this module for C20's `simp [rstep, …]`
    simp only [rstep, rread]
    split
    · exact ⟨rfl, rfl⟩
    · split <;> exact ⟨rfl, rfl⟩
  | reopen => exact ⟨rfl, rfl⟩
  | deliver => dsimp only [rstep]; split <;> exact ⟨rfl, rfl⟩
  | _ => cases hop

theorem rstep_nodup (q : Quirks) (cfgs : Nat → Cfg) (w : RWorld) (c : Nat) (op : Op)
    (hk : (aKeys w.srv).Nodup) : (aKeys (rstep q cfgs w c op).1.srv).Nodup := by
  cases hop : cacheOp op with
  | true => rw [(cacheOp_server q cfgs w c op hop).1]; exact hk
  | false =>
    exact rstep_keeps (fun w => (aKeys w.srv).Nodup) (hDel := fun w fk h => srvDel_srv w fk ▸ aKeys_aDel_nodup _ _ h)
      (hPut := fun _ _ _ => aKeys_aSet_nodup _ _ _) (hRead := fun _ _ _ h => h) (hTtl := fun _ _ _ h => h)
      q cfgs w c op hop hk

theorem coh_step (q : Quirks) (cfgs : Nat → Cfg) (w : RWorld) (c : Nat) (op : Op) (h : Coh cfgs w) :
    Coh cfgs (rstep q cfgs w c op).1 := by
  cases hop : cacheOp op with
  | false =>
    exact rstep_keeps (Coh cfgs) (hDel := fun _ _ => coh_srvDel _ _ _) (hPut := fun _ _ _ => coh_srvPut _ _ _ _)
      (hRead := fun _ _ _ => coh_read _ _ _ _) (hTtl := fun w _ _ => coh_write cfgs w w.srv _ _ (fun _ _ => rfl))
      q cfgs w c op hop h
  | true =>
    intro c'
    rw [(cacheOp_server q cfgs w c op hop).1]
    refine cacheOp_keeps (fun c x => CohC w.srv (cfgs c) x) q cfgs w c op hop
      (hRead := fun fk x => cohC_remember _ _ x fk) (hOn := fun _ _ _ _ hm => nomatch hm)
      (hHit := fun x k v hx hv k' v' hm => ?hit) (hMiss := fun x k hx ht k' v' hm => ?miss)
      (hFresh := fun k v hm => ?fresh) (hDrop := fun x fk rest hx hp k v hm => ?drop) h c'
    case hit =>
      refine hx k' v' ?_
      rcases List.mem_append.mp hm with he | he
      · exact (mem_aDel he).1
      · rw [List.mem_singleton.mp he]
        exact mem_of_aGet _ _ _ hv
    case miss =>
      rcases mem_lruInsert _ _ _ _ _ hm with he | he
      · exact hx k' v' he
      · cases he
        exact Or.inr ⟨ht, rfl⟩
    case fresh => simp [Client.fresh] at hm
    case drop =>
      -- a delivered invalidation: the entry of its key goes with it, the others wait for theirs as before
      have hm' := mem_aDel hm
      rcases hx k v hm'.1 with hq | ht
      · left
        rw [hp] at hq
        rcases List.mem_cons.1 hq with e | e
        · exact absurd (by rw [← e, rmPrefix_pk]) hm'.2
        · exact e
      · exact Or.inr ht

theorem cap_step (q : Quirks) (cfgs : Nat → Cfg) (w : RWorld) (c : Nat) (op : Op) (h : CapOK cfgs w) :
    CapOK cfgs (rstep q cfgs w c op).1 := by
  cases hop : cacheOp op with
  | false =>
    refine rstep_keeps (CapOK cfgs) (hDel := fun w fk h c' => ?del) (hPut := fun w fk v h c' => ?put)
      (hRead := fun w c fk h c' => ?read) (hTtl := fun w fk ttl' h c' => ?ttl) q cfgs w c op hop h
    case del =>
      unfold srvDel
      split <;> simpa using h c'
    case put => simpa [srvPut] using h c'
    case read => exact setCl_keeps (P := fun c x => x.cache.length ≤ (cfgs c).cap) h (by simpa using h c) c'
    case ttl => simpa using h c'
  | true =>
    refine cacheOp_keeps (fun c x => x.cache.length ≤ (cfgs c).cap) q cfgs w c op hop
      (hRead := fun fk x hx => by simpa using hx) (hOn := fun _ _ => Nat.zero_le _) (hHit := fun x k v hx hv => ?_)
      (hMiss := fun x k hx _ => lruInsert_length _ _ _ _ hx) (hFresh := by simp [Client.fresh])
      (hDrop := fun x fk rest hx _ => Nat.le_trans (List.length_filter_le _ _) hx) h
    have := aDel_length_lt _ _ _ hv
    simp only [List.length_append, List.length_singleton]
    omega

end Asl.Store
