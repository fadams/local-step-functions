/-
Flat skeletons, concluded: every operation keeps `PInv` (`pstep`), the canonical crash-free run makes progress
(`pcanon`) and ends the execution (`pdrain`).
-/
import Proofs.Lemmas.CrashFlatFin
import Proofs.Lemmas.CrashFlatLaunch
namespace Asl.Crash

theorem foldl_withVol_self (acts : List Act) (c : Cfg) : (acts.foldl Cfg.act c).withVol c.vol = acts.foldl Cfg.act c :=
  (foldl_act_withVol acts c c.vol).symm

theorem withVol_withVol (c : Cfg) (v v' : Vol) : (c.withVol v).withVol v' = c.withVol v' := rfl

/-- a handler that has the event `m` in hand finishes the visit: whatever `advance` decides, the invariant holds again
and no more is left to do than before.  (`fuel + 2`: `advance_join_end` unfolds `advance` twice, `fuelOf_succ` supplies it; of
`cX` the arms of `advance` that are reached on this class read `deadJ` only.) -/
theorem finish {N : Nat} {d : Cfg} {m : QEv} {rp : Option Nat} {t rest : Sk} {stack : List Frame} {start : Bool}
    (h : Mid N d m.id rp) (hm : m ∈ d.evq) (hu : m.unacked = true) (hk : m.kind = .visit t stack start none)
    (htk : tasksIn t = tasksIn rest + (if rp.isSome then 1 else 0))
    (hvis : rest.isVisit = true → visits rest + 1 ≤ visits t)
    (hlastv : rest = .done → stack ≠ [] → lastVisit m.kind = true)
    (hkt : isTaskKind m.kind = true → rp = some m.id)
    (hrest : rest = .done ∨ (rest.isVisit = true ∧ FlatK (.visit rest stack false none)))
    (cX : Cfg) (fuel : Nat) {acts : List Act} {v' : Vol}
    (hadv : advance Quirks.none cX (fuel + 2) m.id rest stack none rp d.vol = (acts, v')) (hcX : cX.deadJ = []) :
    PInv N ((acts.foldl Cfg.act d).withVol v') ∧ mu2 ((acts.foldl Cfg.act d).withVol v') ≤ mu2 d := by
  have hndd : notDead cX d.vol := ⟨h.join.alive, hcX⟩
  have hfk := h.dur.kinds _ (mem_evK hm)
  rcases hrest with rfl | ⟨hv, hflat⟩
  · -- the sequence is over
    cases stack with
    | nil =>
      have hstk : evStack m.kind = [] := by rw [hk]; rfl
      cases (advance_done_top (h.shape.top _ (mem_evK hm) hstk).2).symm.trans hadv
      rw [foldl_withVol_self]
      exact fin_end h hm hu hstk (by rw [hk]; exact htk.trans (Nat.zero_add _))
    | cons f outer =>
      -- the end of a branch goes to the join
      obtain ⟨t', f', e, -, hwf⟩ := flatKind_branch hfk (by rw [hk]; exact List.cons_ne_nil _ _)
      cases hk.symm.trans e
      have hstk : evStack m.kind = [f] := by rw [hk]; rfl
      obtain ⟨hmc, -, hflat, hidx⟩ := Frame.wf_iff.mp hwf
      by_cases hlt : (joinAfter d.joins f m.id rp).filled.length < f.width
      · cases (advance_hold cX (fuel + 1) m.id f rp d.vol hndd hmc hidx hlt).symm.trans hadv
        exact fin_hold h hm hu hstk (hlastv rfl (by simp)) hkt hlt
      · have hge : f.width ≤ (joinAfter d.joins f m.id rp).filled.length := Nat.le_of_not_lt hlt
        rcases flat_next (stack := []) hflat with hd | ⟨hv, -⟩
        · cases (advance_join_end cX fuel m.id f rp d.vol hndd hge hd).symm.trans hadv
          exact fin_join_end h hm hu hstk (hlastv rfl (by simp)) hkt hge hd
        · cases (advance_join_next cX (fuel + 1) m.id f rp d.vol hndd hge hv).symm.trans hadv
          exact fin_join_next h hm hu hstk (hlastv rfl (by simp)) hkt hge hv
  · -- the next visit of the same sequence
    cases (advance_next hv).symm.trans hadv
    obtain ⟨l1, l2, he, h1, h2⟩ := h.dur.split hm
    rw [foldl_withVol_self]
    exact fin_next h he h1 h2 hu (by rw [hk]; rfl) hflat (by rw [hk]; exact htk) (by rw [hk]; exact hvis hv) rfl

/-- no event of a flat skeleton is dropped: nothing is on record as over, and the terminal notification is not out while
an event is in the queue -/
theorem not_inDeadJoin {N : Nat} {c : Cfg} (h : PInv N c) (c1 : Cfg) (v : Vol) (hv : v.joins = c.joins)
    (hn : c1.notes = c.notes) (hf : c1.failed = c.failed) (hdj : c1.deadJ = c.deadJ) {m : QEv} (hm : m ∈ c.evq) :
    inDeadJoin Quirks.none c1 v m = false := by
  have hnd : notDead c1 v := ⟨by rw [hv]; exact h.join.alive, by rw [hdj]; exact h.dur.nodead⟩
  have hnotes : c1.notes = 0 := by rw [hn]; exact h.cons.psi1 (List.ne_nil_of_mem (mem_evK hm))
  have hend : v.joins.any (fun j => j.ended) = false := by
    rw [hv, List.any_eq_false]
    intro j hj
    simp [h.join.live j hj]
  have hdj : (evJids m.kind).any (deadJid Quirks.none c1 v) = false := by
    rw [List.any_eq_false]
    intro j _
    simp [deadJid_false hnd j]
  simp [inDeadJoin, hdj, hend, hnotes, hf, h.dur.nofail]

/-- `finish`, no reply involved, for a handler on `c1` with the memory `v0` that first notes, when `pre`, that the execution runs -/
theorem pvisit {N M : Nat} {c1 : Cfg} {v0 : Vol} {m : QEv} {t rest : Sk} {stack : List Frame} {start pre : Bool}
    (h : Hand N (({ c1 with running := c1.running + if pre then 1 else 0 } : Cfg).withVol v0) (some m.id) none)
    (hm : m ∈ c1.evq) (hu : m.unacked = true) (hk : m.kind = .visit t stack start none)
    (ht : (t = .done ∧ rest = .done) ∨ t = .step rest ∨ t = .wait rest ∨ ∃ mc, t = .par mc .nil rest ∧ stack = [])
    (hrest : rest = .done ∨ (rest.isVisit = true ∧ FlatK (.visit rest stack false none)))
    (n : Nat) (hM : mu2 (({ c1 with running := c1.running + if pre then 1 else 0 } : Cfg).withVol v0) < M) :
    let a := advance Quirks.none c1 (n + 2) m.id rest stack none none v0
    let c' := c1.handler (preOf pre ++ a.1) a.2 none
    PInv N c' ∧ mu2 c' < M := by
  intro a c'
  subst a c'
  obtain ⟨hnt, htk, hvis, hlast⟩ : isTaskKind m.kind = false ∧ tasksIn t = tasksIn rest ∧
      (rest.isVisit = true → visits rest + 1 ≤ visits t) ∧ (rest = .done → stack ≠ [] → lastVisit m.kind = true) := by
    rcases ht with ⟨rfl, rfl⟩ | rfl | rfl | ⟨mc, rfl, rfl⟩ <;>
      simp +contextual [hk, isTaskKind, tasksIn, brTasks, visits, brVisits, Sk.isVisit, lastVisit, todoOf]
  have hmid := h.mid (mem_uEv.mpr ⟨m, hm, hu, rfl⟩) nofun fun _ hh => by simpa [hnt] using (h.dur.reply _ (mem_evK hm) hh).1
  generalize hadv : advance Quirks.none c1 (n + 2) m.id rest stack none none v0 = p
  obtain ⟨acts, v'⟩ := p
  have := finish (rest := rest) hmid hm hu hk htk hvis hlast (fun ht' => by rw [hnt] at ht'; cases ht')
    hrest c1 n hadv h.dur.nodead
  rw [foldl_act_withVol] at this
  simp only [Cfg.handler, List.foldl_append, fold_pre]
  exact ⟨this.1, Nat.lt_of_le_of_lt this.2 hM⟩

theorem pstep_ev {N : Nat} {c c' : Cfg} {id : Nat} (h : PInv N c)
    (hs : step Quirks.none c (.ev id) none = some c') : PInv N c' ∧ mu2 c' < mu2 c := by
  obtain ⟨m, hf⟩ := step_ev_some h.dur.nodiv hs
  obtain ⟨hm, rfl, hu⟩ := findEv_some hf
  obtain ⟨l1, l2, he, h1, h2⟩ := h.dur.split hm
  let m' : QEv := { m with unacked := true }
  have hmk : markEv c m.id = { c with evq := l1 ++ m' :: l2 } := markEv_split he h1 h2 hu
  have hfk : flatKind m.kind = true := h.dur.kinds _ (mem_evK hm)
  obtain ⟨t, stack, start, hk, -⟩ := flatKind_inv hfk
  rw [step_ev_eq h.dur.nodiv hf (flat_not_opaque hfk) (not_inDeadJoin h (markEv c m.id) (markEv c m.id).vol rfl rfl rfl rfl hm),
    hmk] at hs
  cases hs
  obtain ⟨hH, hmu⟩ := h.hand.deliver (m' := m') he h1 h2 hu rfl rfl rfl (c.running + if start then 1 else 0)
  have hm' : m' ∈ l1 ++ m' :: l2 := by simp
  obtain ⟨n, hn⟩ := fuelOf_succ { c with evq := l1 ++ m' :: l2 }
  have hlt : mu2 { c with evq := l1 ++ m' :: l2, running := c.running + if start then 1 else 0 } < mu2 c := by omega
  have hvis := fun rest ht hrest => pvisit (c1 := { c with evq := l1 ++ m' :: l2 }) (v0 := Cfg.vol { c with evq := l1 ++ m' :: l2 })
    (pre := start) (rest := rest) (m := m') hH hm' rfl hk ht hrest n hlt
  rcases flat_cases (hk ▸ hfk) with rfl | ⟨rest, hr, ⟨rc, rfl⟩ | rfl | rfl | ⟨mc, brs, rfl, rfl⟩⟩
  · -- an empty skeleton (or branch)
    simp only [evHandler, hk, pre_top, hn]
    exact hvis .done (.inl ⟨rfl, rfl⟩) (.inl rfl)
  · -- a Task
    cases rc with
    | zero =>
      by_cases hsn : m.id ∈ c.sent
      · simp only [evHandler, hk, pre_top, List.contains_iff_mem, hsn, if_true, List.nil_append, Cfg.handler, fold_pre]
        exact hH.register (m := m') hm' rfl hsn (congrArg isTaskKind hk) (by omega)
      · simp only [evHandler, hk, pre_top, List.contains_iff_mem, hsn, if_false, requestOf, Cfg.handler, fold_send_pre]
        obtain ⟨hP, e⟩ := hH.pubReq (m := m') hm' (congrArg isTaskKind hk) hsn
        exact hP.register (m := m') hm' rfl (List.mem_append_right _ (List.mem_singleton.mpr rfl)) (congrArg isTaskKind hk) (by omega)
    | succ rc =>
      simp only [evHandler, hk, pre_top, Cfg.handler, fold_pre]
      exact hH.arm (m := m') hm' rfl (congrArg timerKind hk) (by omega)
  · -- a visit handled in one go
    simp only [evHandler, hk, pre_top, hn]
    exact hvis rest (.inr (.inl rfl)) (flat_next hr)
  · -- a Wait
    simp only [evHandler, hk, pre_top, Cfg.handler, fold_pre]
    exact hH.arm (m := m') hm' rfl (congrArg timerKind hk) (by omega)
  · -- a Parallel / Map state
    simp only [evHandler, hk, pre_top, Cfg.handler, fold_pre]
    exact hH.arm (m := m') hm' rfl (congrArg timerKind hk) (by omega)

theorem pstep_tm {N : Nat} {c c' : Cfg} {id : Nat} (h : PInv N c)
    (hs : step Quirks.none c (.tm id) none = some c') : PInv N c' ∧ (id ∈ c.timers → mu2 c' < mu2 c) := by
  by_cases hc : id ∈ c.timers
  · suffices hgoal : PInv N c' ∧ mu2 c' < mu2 c from ⟨hgoal.1, fun _ => hgoal.2⟩
    obtain ⟨m, hm, rfl, hu, htk, hf⟩ := armed_event h.dur h.vol hc
    have hfk : flatKind m.kind = true := h.dur.kinds _ (mem_evK hm)
    obtain ⟨t, stack, start, hk, -⟩ := flatKind_inv hfk
    rw [step_tm_eq h.dur.nodiv hc hf htk (by rw [not_inDeadJoin h c _ rfl rfl rfl rfl hm, Bool.and_false])] at hs
    cases hs
    obtain ⟨hH, hmu⟩ := h.hand.disarm hc
    obtain ⟨n, hn⟩ := fuelOf_succ c
    have hlt : mu2 { c with timers := c.timers.erase m.id } < mu2 c := by omega
    rcases flat_cases (hk ▸ hfk) with rfl | ⟨rest, hr, ⟨rc, rfl⟩ | rfl | rfl | ⟨mc, brs, rfl, rfl⟩⟩
    · cases hk ▸ htk
    · -- a Task: the request is sent
      by_cases hsn : m.id ∈ c.sent
      · simp only [tmHandler, hk, List.contains_iff_mem, hsn, if_true]
        exact hH.register hm hu hsn (congrArg isTaskKind hk) (by omega)
      · simp only [tmHandler, hk, List.contains_iff_mem, hsn, if_false, requestOf]
        obtain ⟨hP, e⟩ := hH.pubReq hm (congrArg isTaskKind hk) hsn
        exact hP.register hm hu (List.mem_append_right _ (List.mem_singleton.mpr rfl)) (congrArg isTaskKind hk) (by omega)
    · cases hk ▸ htk
    · -- a Wait is over
      simp only [tmHandler, hk, hn]
      exact pvisit (pre := false) hH hm hu hk (.inr (.inr (.inl rfl))) (flat_next hr) n hlt
    · -- a Parallel / Map state
      cases brs with
      | nil =>
        -- without branches: what follows goes on at once
        simp only [tmHandler, hk, Br.toList, List.isEmpty_nil, if_true, hn]
        exact pvisit (pre := false) hH hm hu hk (.inr (.inr (.inr ⟨mc, rfl, rfl⟩))) (flat_next hr) n hlt
      | cons b bs =>
        -- its branches are launched
        simp only [tmHandler, hk, Br.toList, List.isEmpty_cons, Bool.false_eq_true, if_false]
        exact flat_launch (v0 := { c.vol with timers := c.timers.erase m.id }) hH hm hu hk (List.cons_ne_nil _ _) hlt
  · obtain rfl := step_tm_idle h.dur.nodiv hc hs
    exact ⟨h, fun hh => absurd hh hc⟩

/-- the reply to the Task event `m` is handled (by its delivery, or by the orphan handler): the visit is over -/
theorem preply {N : Nat} {c1 c' : Cfg} {v : Vol} {m : QEv} (hm : m ∈ c1.evq) (hu : m.unacked = true)
    (hmid : Mid N (c1.withVol { v with pending := v.pending.erase m.id }) m.id (some m.id))
    (hs : (onReply Quirks.none c1 m.id v).map (fun x => c1.handler x.1 x.2 none) = some c') :
    PInv N c' ∧ mu2 c' ≤ mu2 (c1.withVol { v with pending := v.pending.erase m.id }) := by
  have hfk : flatKind m.kind = true := hmid.dur.kinds _ (mem_evK hm)
  -- its request is out: it is a Task event
  obtain ⟨rc, rest, stack, start, hkk, hr⟩ := task_of_flat hfk (hmid.dur.reply _ (mem_evK hm) (hmid.rpok _ rfl).2.2).1
  have hf1 : findEv c1 m.id true = some m := hu ▸ (hmid.dur.withVol c1.vol).findEv hm
  obtain ⟨n, hn⟩ := fuelOf_succ c1
  simp only [onReply_eq _ hf1 hkk, hn, Option.map_some] at hs
  generalize hadv : advance Quirks.none c1 (n + 2) m.id rest stack none (some m.id) { v with pending := v.pending.erase m.id } = p at hs
  obtain ⟨acts, v'⟩ := p
  cases hs
  have := finish (rest := rest) hmid hm hu hkk
    rfl (fun _ => Nat.le_refl _) (fun hr _ => by rw [hkk, hr]; rfl)
    (fun _ => rfl) (flat_next hr) c1 n hadv hmid.dur.nodead
  rw [foldl_act_withVol] at this
  exact this

theorem pstep_rp {N : Nat} {c c' : Cfg} {corr : Nat} (h : PInv N c)
    (hs : step Quirks.none c (.rp corr) none = some c') : PInv N c' ∧ mu2 c' < mu2 c := by
  rw [step_rp_eq _ h.dur.nodiv] at hs
  obtain ⟨hany, hs⟩ := Option.ite_none_right_eq_some.mp hs
  obtain ⟨k1, k2, r, hk, g1, g2, hrc, hru, hmk⟩ := markRpL_of_any h.dur.corrnd hany
  rw [hmk] at hs
  split at hs
  · -- a Task waits for the reply
    rename_i hp
    obtain ⟨m, hm, rfl, hu, -, -⟩ := pending_task h.dur h.vol hp
    obtain ⟨l1, l2, he, h1, h2⟩ := h.dur.split hm
    obtain ⟨hmid, hlt⟩ := mid_rp (r' := { r with unacked := true }) h he h1 h2 hu hp hk hrc g1 g2 hru rfl rfl
    have := preply (c1 := { c with rpq := k1 ++ { r with unacked := true } :: k2 }) (v := c.vol) hm hu hmid hs
    exact ⟨this.1, Nat.lt_of_le_of_lt this.2 hlt⟩
  · -- nobody waits for it (yet): it is retained
    cases hs
    subst hrc
    obtain ⟨hH, hin, hmu⟩ := h.hand.deliverRp (r' := { r with unacked := true }) hk g1 g2 hru rfl rfl
    exact hH.retain hin (by omega)

theorem pstep_tick {N : Nat} {c c' : Cfg} (h : PInv N c)
    (hs : step Quirks.none c .tick none = some c') :
    PInv N c' ∧ ((∃ o ∈ c.orphans, o ∈ c.pending) → mu2 c' < mu2 c) := by
  rw [step_tick_eq _ h.dur.nodiv] at hs
  split at hs
  · rename_i hf
    cases hs
    exact ⟨h, fun ⟨o, ho, hp⟩ => absurd (by simpa using hp) (List.find?_eq_none.mp hf o ho)⟩
  · rename_i corr hf
    have hp : corr ∈ c.pending := by simpa using List.find?_some hf
    obtain ⟨m, hm, rfl, hu, -, -⟩ := pending_task h.dur h.vol hp
    obtain ⟨hmid, hlt⟩ := mid_tick h hm hu hp (List.mem_of_find?_eq_some hf)
    have := preply (c1 := c) (v := { c.vol with orphans := c.orphans.erase m.id }) hm hu hmid hs
    exact ⟨this.1, fun _ => Nat.lt_of_le_of_lt this.2 hlt⟩

theorem pstep {N : Nat} {c c' : Cfg} {op : Op} (h : PInv N c) (hs : step Quirks.none c op none = some c') : PInv N c' := by
  cases op with
  | ev id => exact (pstep_ev h hs).1
  | tm id => exact (pstep_tm h hs).1
  | rp corr => exact (pstep_rp h hs).1
  | tick => exact (pstep_tick h hs).1
  | crash =>
    cases (step_crash_eq _ h.dur.nodiv none).symm.trans hs
    exact h.crash

theorem prun {N : Nat} {c c' : Cfg} {ops : List Op} (h : PInv N c)
    (hr : run Quirks.none c (ops.map (fun o => (o, none))) = some c') : PInv N c' :=
  run_keeps Quirks.none _ c c' (fun x hx c c' h hs => by obtain ⟨o, -, rfl⟩ := List.mem_map.mp hx; exact pstep h hs) h hr

theorem pquiet {N : Nat} (c : Cfg) (h : PInv N c) (hq : nextOp c = none) : c.evq = [] := by
  -- every event is held by the join (an event does not wait for a reply that is held: the join would hold the event as well)
  have hheld : ∀ e ∈ c.evq, e.id ∈ heldE c.joins := fun e he =>
    (quiet_held h.dur h.vol hq e he).elim id fun ⟨hp, hr⟩ => absurd hp (h.join.ht _ (h.join.heldR_heldE hr)).2
  apply List.eq_nil_iff_forall_not_mem.mpr
  intro e he
  have hxin := mem_evK he
  obtain ⟨j, hj, -⟩ := List.mem_flatMap.mp (hheld e he)
  -- the event belongs to a branch, since a join is on record
  have hstk : evStack e.kind ≠ [] := fun hs => not_mem_of_eq_nil (h.shape.top _ hxin hs).2 hj
  obtain ⟨t, f, hk, -⟩ := flatKind_branch (h.dur.kinds _ hxin) hstk
  have hef : evStack e.kind = [f] := by rw [show e.kind = _ from hk]; rfl
  -- every slot has its event, which is held: the slot is filled
  have hfull : ∀ i, i < f.width → i ∈ j.filled := by
    intro i hi
    obtain ⟨p', hp', f', hf', rfl⟩ := h.shape.cover _ hxin f hef i hi
    obtain ⟨e', he', rfl⟩ := List.mem_map.mp hp'
    obtain ⟨j', hj', hq'⟩ := List.mem_flatMap.mp (hheld e' he')
    obtain ⟨q, hq, hq2⟩ := List.mem_map.mp hq'
    cases List.mem_singleton.mp (h.join.one j hj ▸ hj')
    obtain ⟨hq1, p, hp, hp1, hp2, -⟩ := h.join.held j hj q hq
    cases eq_of_nodup_map (·.1) h.dur.ids hp hp' (hp1.trans hq2)
    rw [← kIdx_of_stack (show evStack e'.kind = [f'] from hf'), hp2]
    exact hq1
  -- but the join on record is not complete
  exact Nat.lt_irrefl _ (Nat.lt_of_lt_of_le (h.join.mine j hj _ hxin f hef).2 (length_ge_of_full f.width j.filled hfull))

theorem pcanon {N : Nat} (c : Cfg) (op : Op) (h : PInv N c) (hop : nextOp c = some op) :
    ∃ c', step Quirks.none c op none = some c' ∧ PInv N c' ∧ mu2 c' < mu2 c :=
  canon_step h.dur h.vol
    (fun _ _ hs => pstep_ev h hs)
    (fun _ _ ht hs => ⟨(pstep_tm h hs).1, (pstep_tm h hs).2 ht⟩)
    (fun _ _ hs => pstep_rp h hs)
    (fun _ ho hs => ⟨(pstep_tick h hs).1, (pstep_tick h hs).2 ho⟩) hop

theorem pdrain {N : Nat} (fuel : Nat) (c : Cfg) (h : PInv N c) (hf : mu2 c ≤ fuel) :
    PInv N (drain Quirks.none fuel c) ∧ nextOp (drain Quirks.none fuel c) = none :=
  drain_rest Quirks.none pcanon fuel c h hf

theorem ended_of_quiet {N : Nat} {c : Cfg} (h : PInv N c) (hq : nextOp c = none) : Ended N c := by
  have hev := pquiet c h hq
  have hevk : evK c = [] := by simp [evK, hev]
  have hrp : c.rpq = [] := List.eq_nil_iff_forall_not_mem.mpr fun r hr => by
    obtain ⟨p, hp, -⟩ := h.cons.fresh r.corr (List.mem_map.mpr ⟨r, hr, rfl⟩)
    exact not_mem_of_eq_nil hevk hp
  have hphi := h.cons.phi
  simp only [load2, inflight2, hevk, List.map_nil, List.sum_nil, List.filter_nil, List.length_nil] at hphi
  exact ⟨hev, hrp, h.cons.psi0 hevk, h.dur.sentnd, hphi, (h.vol.idle hev).1, (h.vol.idle hev).2, h.vol.idleRp hrp, h.join.jne hevk⟩

end Asl.Crash
