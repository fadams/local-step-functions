/- the join of a fan-out (`AslModel/Join.lean`): `Join.feed` is a fold of `Join.record`s (`List.set`); what it keeps and
reaches is read off `List.foldlRecOn` -/
import AslModel.Join
namespace Asl

theorem Join.record_eq_set (s : Slots) (i : Nat) (v : Json) : Join.record s i v = s.set i (some v) := by
  induction s generalizing i with
  | nil => rfl
  | cons x s ih => cases i <;> simp [Join.record, ih]

@[simp] theorem Join.record_length (s : Slots) (i : Nat) (v : Json) : (Join.record s i v).length = s.length := by
  rw [Join.record_eq_set, List.length_set]

theorem Join.record_get (s : Slots) (i j : Nat) (v : Json) :
    (Join.record s i v)[j]? = if j = i ∧ i < s.length then some (some v) else s[j]? := by
  rw [Join.record_eq_set, List.getElem?_set]
  by_cases hji : i = j
  · subst hji
    by_cases hi : i < s.length <;> simp [hi]
  · simp [hji, Ne.symm hji]

@[simp] theorem Join.init_length (n : Nat) : (Join.init n).length = n := by simp [Join.init]

theorem Join.feed_length (s : Slots) (σ : List (Nat × Json)) : (Join.feed s σ).length = s.length :=
  List.foldlRecOn (motive := (·.length = s.length)) σ _ rfl (fun t h p _ => (Join.record_length t p.1 p.2).trans h)

theorem Join.record_keeps_filled (s : Slots) (i : Nat) (v : Json) (j : Nat) (h : ∃ w, s[j]? = some (some w)) :
    ∃ w, (Join.record s i v)[j]? = some (some w) := by
  rw [Join.record_get]
  split
  · exact ⟨v, rfl⟩
  · exact h

theorem Join.feed_keeps_filled (s : Slots) (σ : List (Nat × Json)) (i : Nat) (w : Json)
    (h : s[i]? = some (some w)) : ∃ w', (Join.feed s σ)[i]? = some (some w') :=
  List.foldlRecOn (motive := fun t => ∃ w', t[i]? = some (some w')) σ _ ⟨w, h⟩
    (fun t ht p _ => Join.record_keeps_filled t p.1 p.2 i ht)

theorem Join.feed_fills (s : Slots) (σ : List (Nat × Json)) (i : Nat) (v : Json)
    (hm : (i, v) ∈ σ) (hi : i < s.length) : ∃ w, (Join.feed s σ)[i]? = some (some w) := by
  induction σ generalizing s with
  | nil => simp at hm
  | cons p σ ih =>
    simp only [Join.feed, List.foldl_cons]
    rcases List.mem_cons.mp hm with h | h
    · subst h
      have : (Join.record s i v)[i]? = some (some v) := by rw [Join.record_get]; simp [hi]
      exact Join.feed_keeps_filled _ σ i v this
    · exact ih _ h (by simpa using hi)

theorem Join.feed_agrees (o : List Json) (s : Slots) (σ : List (Nat × Json))
    (hs : ∀ (j : Nat) (w : Json), s[j]? = some (some w) → o[j]? = some w)
    (hσ : ∀ p ∈ σ, o[p.1]? = some p.2) :
    ∀ (j : Nat) (w : Json), (Join.feed s σ)[j]? = some (some w) → o[j]? = some w := by
  refine List.foldlRecOn (motive := fun t => ∀ j w, t[j]? = some (some w) → o[j]? = some w) σ _ hs (fun t ht p hp j w hj => ?_)
  rw [Join.record_get] at hj
  split at hj
  · rename_i hc
    simp at hj; subst hj
    rw [hc.1]; exact hσ p hp
  · exact ht j w hj

theorem Join.result_map_some (o : List Json) : Join.result (o.map some) = some o := by
  induction o with
  | nil => rfl
  | cons v o ih => simp [Join.result, ih]

theorem Join.result_of_all (s : Slots) (o : List Json) (hl : s.length = o.length)
    (h : ∀ i, i < o.length → s[i]? = some (o[i]?)) : Join.result s = some o := by
  have : s = o.map some := by
    apply List.ext_getElem?
    intro i
    by_cases hi : i < o.length
    · simp [h i hi, List.getElem?_eq_getElem hi]
    · simp [hi, hl]
  rw [this, Join.result_map_some]

theorem Join.result_none_of_missing (s : Slots) (i : Nat) (h : s[i]? = some none) : Join.result s = none := by
  induction s generalizing i with
  | nil => simp at h
  | cons x s ih =>
    cases i with
    | zero => simp at h; subst h; rfl
    | succ i =>
      cases x with
      | none => rfl
      | some v => simp [Join.result, ih i (by simpa using h)]

theorem Join.feed_untouched (s : Slots) (σ : List (Nat × Json)) (i : Nat)
    (h : s[i]? = some none) (hn : ∀ p ∈ σ, p.1 ≠ i) : (Join.feed s σ)[i]? = some none := by
  refine List.foldlRecOn (motive := (·[i]? = some none)) σ _ h (fun t ht p hp => ?_)
  rw [Join.record_get]
  split
  · rename_i hc; exact absurd hc.1.symm (hn p hp)
  · exact ht

end Asl
