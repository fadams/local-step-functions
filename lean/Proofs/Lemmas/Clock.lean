/-
The virtual clock of the timed reference semantics (`St.clock`, AslModel/Interp.lean): the functions that compute
its instants.  `Env.Timely now t` gathers what the guards of the interpreter say about every instant it lets the
clock run to: with a deadline `D` (and the switch of C08-F1 off) that instant is not beyond `max(now, D)`.
-/
import AslModel.Interp
namespace Asl

theorem le_rmax_left (a b : Rat) : a ≤ rmax a b := by
  unfold rmax; split
  · assumption
  · exact Rat.le_refl

theorem le_rmax_right (a b : Rat) : b ≤ rmax a b := by
  unfold rmax; split
  · exact Rat.le_refl
  · rename_i h; exact Rat.le_of_lt (Rat.not_le.mp h)

theorem rmax_le {a b c : Rat} (h1 : a ≤ c) (h2 : b ≤ c) : rmax a b ≤ c := by unfold rmax; split <;> assumption
theorem rmax_eq_right {a b : Rat} (h : a ≤ b) : rmax a b = b := by simp [rmax, h]
theorem rmax_eq_left {a b : Rat} (h : b ≤ a) : rmax a b = a := by
  unfold rmax; split
  · exact Rat.le_antisymm h (by assumption)
  · rfl
theorem rmax_comm_le (a b : Rat) : rmax a b ≤ rmax b a := rmax_le (le_rmax_right _ _) (le_rmax_left _ _)

theorem rmax_assoc (a b c : Rat) : rmax (rmax a b) c = rmax a (rmax b c) := by
  unfold rmax; grind

theorem St.waitUntil_waitUntil (st : St) (t u : Rat) : (st.waitUntil t).waitUntil u = st.waitUntil (rmax t u) := by
  simp only [St.waitUntil, rmax_assoc]

theorem fanCombine_snd (r : Res) (t1 : Rat) (rest : Except Res (List Json)) (st2 : St) (tOk : Rat) :
    ∃ m t c, (fanCombine r t1 rest st2 tOk).2 = { st2 with multiFail := m, tieFail := t, clock := c } ∧
      (c = st2.clock ∨ c = t1 ∨ c = tOk) := by
  unfold fanCombine
  split
  · exact ⟨_, _, _, rfl, .inr (.inr rfl)⟩
  · exact ⟨_, _, _, rfl, .inl rfl⟩
  · exact ⟨_, _, _, rfl, .inl rfl⟩
  · -- (the two comparisons by hand: `split` simplifies the whole goal with each condition, which is slow to check)
    by_cases h1 : t1 < st2.clock
    · rw [if_pos h1]
      exact ⟨_, _, _, rfl, .inr (.inl rfl)⟩
    · rw [if_neg h1]
      by_cases h2 : st2.clock < t1
      · rw [if_pos h2]
        exact ⟨_, _, _, rfl, .inl rfl⟩
      · rw [if_neg h2]
        exact ⟨_, _, _, rfl, .inl rfl⟩
  · exact ⟨_, _, _, rfl, .inr (.inl rfl)⟩

theorem execCut_some_eq (D t : Rat) : execCut (some D) t = if D ≤ t then some D else none := rfl

theorem execCut_some {D t d : Rat} (h : execCut (some D) t = some d) : d = D ∧ D ≤ t := by
  rw [execCut_some_eq] at h
  split at h
  · exact ⟨(Option.some.inj h).symm, by assumption⟩
  · cases h

theorem execCut_none {D t : Rat} (h : execCut (some D) t = none) : t < D := by
  rw [execCut_some_eq] at h
  split at h
  · cases h
  · rename_i hn; exact Rat.not_le.mp hn

theorem execCut_of_le {D t : Rat} (h : D ≤ t) : execCut (some D) t = some D := if_pos h

theorem Env.retryCut_eq {env : Env} (hq : env.retryPastDeadline = false) (t : Rat) :
    env.retryCut t = execCut env.deadline t := by
  rw [Env.retryCut, hq]
  rfl

theorem taskLimit_both (o d now : Rat) :
    ∃ l, taskLimit (some o) (some d) now = some l ∧
      l.t = (if rmax now d ≤ rmax now o then rmax now d else rmax now o) ∧
      l.t ≤ rmax now d ∧ l.t ≤ rmax now o ∧
      (l.exec = true ↔ rmax now d ≤ rmax now o) ∧ (l.task = true ↔ rmax now o ≤ rmax now d) := by
  unfold taskLimit
  simp only
  split
  · exact ⟨_, rfl, by grind⟩
  · split
    · exact ⟨_, rfl, by grind⟩
    · exact ⟨_, rfl, by grind⟩

theorem taskLimit_own {o now : Rat} {exec : Option Rat} (ho : now ≤ o) (hd : ∀ d, exec = some d → o < d) :
    taskLimit (some o) exec now = some { t := o, task := true, exec := false } := by
  cases exec with
  | none => simp [taskLimit, rmax_eq_right ho]
  | some d =>
    have h := hd d rfl
    simp [taskLimit, rmax_eq_right ho, rmax_eq_right (Rat.le_trans ho (Rat.le_of_lt h)), h, Rat.not_lt.mpr (Rat.le_of_lt h)]

theorem taskLimit_le_exec (own : Option Rat) (D now : Rat) :
    ∃ l, taskLimit own (some D) now = some l ∧ l.t ≤ rmax now D := by
  cases own with
  | none => exact ⟨_, rfl, Rat.le_refl⟩
  | some o =>
    obtain ⟨l, h, _, hd, _⟩ := taskLimit_both o D now
    exact ⟨l, h, hd⟩

theorem taskLimit_exec_t {own : Option Rat} {D now : Rat} {l : Limit}
    (h : taskLimit own (some D) now = some l) (hx : l.exec = true) : l.t = rmax now D := by
  cases own with
  | none => simp only [taskLimit, Option.some.injEq] at h; rw [← h]
  | some o =>
    obtain ⟨l', h', ht, _, _, hexec, _⟩ := taskLimit_both o D now
    rw [h, Option.some.injEq] at h'
    subst h'
    rw [ht, if_pos (hexec.mp hx)]

theorem taskArrival_le {delay : Option Rat} {L now tEnd : Rat} {to : Bool}
    (h : taskArrival delay (some L) now = some (tEnd, to)) : tEnd ≤ L := by
  cases delay with
  | none =>
    cases h
    exact Rat.le_refl
  | some d =>
    simp only [taskArrival] at h
    split at h
    · cases h
      exact Rat.le_of_lt (by assumption)
    · cases h
      exact Rat.le_refl

theorem taskArrival_late {delay : Option Rat} {L now : Rat} (h : ∀ d, delay = some d → ¬ now + d < L) :
    taskArrival delay (some L) now = some (L, true) := by
  cases hd : delay with
  | none => rfl
  | some d => simp [taskArrival, h d hd]

def Env.Timely (env : Env) (now t : Rat) : Prop :=
  env.retryPastDeadline = false → ∀ D, env.deadline = some D → t ≤ rmax now D

theorem Env.timely_execCut_some {env : Env} {x dl : Rat} (now : Rat) (h : execCut env.deadline x = some dl) : env.Timely now dl := by
  intro _ D hD
  rw [hD] at h
  rw [(execCut_some h).1]; exact le_rmax_right _ _

theorem Env.timely_execCut_none {env : Env} {now t : Rat} (h : execCut env.deadline (rmax now t) = none) : env.Timely now t := by
  intro _ D hD
  rw [hD] at h
  exact Rat.le_trans (Rat.le_trans (le_rmax_right _ _) (Rat.le_of_lt (execCut_none h))) (le_rmax_right _ _)

theorem Env.timely_retryCut_some {env : Env} {x dl : Rat} (now : Rat) (h : env.retryCut x = some dl) : env.Timely now dl := by
  intro hq
  rw [Env.retryCut_eq hq] at h
  exact Env.timely_execCut_some now h hq

theorem Env.timely_retryCut_none {env : Env} {now t : Rat} (h : env.retryCut (rmax now t) = none) : env.Timely now t := by
  intro hq
  rw [Env.retryCut_eq hq] at h
  exact Env.timely_execCut_none h hq

theorem Env.timely_task {env : Env} {dly own : Option Rat} {now tEnd : Rat} {to : Bool}
    (h : taskArrival dly ((taskLimit own env.deadline now).map (·.t)) now = some (tEnd, to)) : env.Timely now tEnd := by
  intro _ D hD
  obtain ⟨l, hl, hlt⟩ := taskLimit_le_exec own D now
  rw [hD, hl] at h
  exact Rat.le_trans (taskArrival_le h) hlt

end Asl
