/-
Flat skeletons, continued: how a handler that has an event in hand (`Mid`) finishes — the next visit of the same sequence
follows, the execution ends, or a branch ends, its join complete or not.
-/
import Proofs.Lemmas.CrashFlatMid
import Proofs.Lemmas.CrashBatch
namespace Asl.Crash

/-- the visit in hand is over and the next visit of the same sequence follows: its event is published, the event (and the
reply) in hand acknowledged -/
theorem fin_next {N : Nat} {d : Cfg} {m : QEv} {rp : Option Nat} {l1 l2 : List QEv} {k' : EvKind}
    (h : Mid N d m.id rp) (he : d.evq = l1 ++ m :: l2) (h1 : ∀ e ∈ l1, e.id ≠ m.id) (h2 : ∀ e ∈ l2, e.id ≠ m.id)
    (hu : m.unacked = true) (hstk : evStack k' = evStack m.kind) (hflat : FlatK k')
    (htk : tasksIn (todoOf m.kind) = tasksIn (todoOf k') + (if rp.isSome then 1 else 0))
    (hvis : visits (todoOf k') + 1 ≤ visits (todoOf m.kind)) (hnb : batchKey k' = []) :
    PInv N ((List.foldl Cfg.act d ([Act.pubEv k', Act.ackEv m.id] ++ ackRof rp))) ∧
      mu2 ((List.foldl Cfg.act d ([Act.pubEv k', Act.ackEv m.id] ++ ackRof rp))) ≤ mu2 d := by
  have hm : m ∈ d.evq := by rw [he]; simp
  have hnd := h.dur.idnd
  have hlt : m.id < d.nextId := h.dur.idlt _ (mem_evK hm)
  have hdur := h.dur.all (ok_next false rp he h1 h2 hu hlt hflat fun r hr => (h.rpok r hr).1)
  rw [fold_next] at hdur
  have hnx : d.nextId ∉ d.sent := fun hh => Nat.lt_irrefl _ (h.dur.sentlt _ hh)
  obtain ⟨hV, hC, hnr⟩ := h.acked
  have hmem := mem_evK_next hm hu hnd k'
  have hmu := mu2_next (c := { d with rpq := ackedRpq rp d.rpq }) hm hu hnd k'
  have hle := mu2_ackedRpq d rp
  rw [show List.foldl Cfg.act d ([Act.pubEv k', Act.ackEv m.id] ++ ackRof rp) =
    (({ d with rpq := ackedRpq rp d.rpq } : Cfg).act (.pubEv k')).act (.ackEv m.id) by cases rp <;> rfl]
  refine ⟨⟨hdur, ((hV.pubEv h.dur.uEv_lt k').ackEv).toI, h.shape.replace h.dur.ids (mem_evK hm) hmem hstk rfl rfl,
    h.join.replace (mem_evK hm) hmem hstk rfl rfl (h.vol.free_ev m.id rfl).2.2 h.join.ht h.join.hro,
    hC.next hnd hnx hm hu hstk (by simpa only [h.isSome_iff] using htk) hnr⟩, ?_⟩
  rw [restW_of_stack hstk] at hmu
  omega

/-- the last visit of the skeleton is over: the terminal notification, then the event (and the reply) in hand acknowledged -/
theorem fin_end {N : Nat} {d : Cfg} {m : QEv} {rp : Option Nat}
    (h : Mid N d m.id rp) (hm : m ∈ d.evq) (hu : m.unacked = true) (hstk : evStack m.kind = [])
    (htk : tasksIn (todoOf m.kind) = if rp.isSome then 1 else 0) :
    PInv N ((List.foldl Cfg.act d ([Act.note true, Act.ackEv m.id] ++ ackRof rp))) ∧
      mu2 ((List.foldl Cfg.act d ([Act.note true, Act.ackEv m.id] ++ ackRof rp))) ≤ mu2 d := by
  obtain ⟨hV, hC, hnr⟩ := h.acked
  obtain ⟨he, hjn, hT, hP, hU⟩ := top_event_alone hV (h.shape.congr id) hC h.dur.idnd hm hstk
  dsimp only at he hjn hT hP hU
  obtain ⟨hrq, hO⟩ := hU hnr
  have hevq : d.evq.filter (ackP m.id) = [] := by simp [he, ackP, hu]
  have hphi := hC.phi
  simp only [load2, inflight2, evK, he, List.map_cons, List.map_nil, List.sum_cons, List.sum_nil, List.filter_cons, List.filter_nil,
    restT, hstk, htk, h.isSome_iff, List.contains_iff_mem, apply_ite List.length, List.length_cons, List.length_nil,
    Nat.zero_add] at hphi
  have hn0 := h.cons.psi1 (List.ne_nil_of_mem (mem_evK hm))
  rw [show List.foldl Cfg.act d ([Act.note true, Act.ackEv m.id] ++ ackRof rp) = _ from fold_end d false m.id rp]
  refine ⟨PInv.ended h.dur.sentlt h.dur.sentnd (congrArg (· + 1) hn0) h.dur.nodiv h.dur.nofail h.dur.nodead ?_
    (hev := hevq) (hrq := hrq) (hT := hT) (hP := hP) (hO := hO) (hJ := hjn), ?_⟩
  · show d.sent.length = N
    omega
  · simp [mu2, hevq, hT, hP, hrq]

/-- the join record of the fan-out attempt (the one on record, or a fresh one) -/
structure GJoin (c : Cfg) (f : Frame) (G : Join) : Prop where
  jid : G.jid = f.jid
  alive : G.dead = false
  live : G.ended = false
  fnd : G.filled.Nodup
  fheld : ∀ i ∈ G.filled, ∃ x, (i, x) ∈ G.heldEv
  held : ∀ q ∈ G.heldEv,
    q.1 ∈ G.filled ∧ ∃ p ∈ evK c, p.1 = q.2 ∧ kIdx p.2 = q.1 ∧ lastVisit p.2 = true ∧ (isTaskKind p.2 = true → p.1 ∈ c.sent)
  heldsent : ∀ q ∈ G.heldEv, q.2 ∈ c.sent → q.2 ∈ G.heldRp
  rpheld : ∀ x ∈ G.heldRp, ∃ q ∈ G.heldEv, q.2 = x
  hE : ∀ x, x ∈ heldE c.joins ↔ ∃ q ∈ G.heldEv, q.2 = x
  hR : ∀ x, x ∈ heldR c.joins ↔ x ∈ G.heldRp
  set : ∀ j : Join, j.jid = f.jid → setJoin c.joins j = [j]
  drop : dropJoin c.joins f.jid = []

theorem GJoin.of_jinv {c : Cfg} (hj : JInv c) {x : Nat × EvKind} {f : Frame} (hx : x ∈ evK c) (hf : evStack x.2 = [f]) :
    GJoin c f (getJoin c.joins f.jid) := by
  cases hjs : c.joins with
  | nil =>
    have : getJoin [] f.jid = { jid := f.jid } := rfl
    rw [this]
    constructor <;> simp [hjs, heldE, heldR, setJoin, dropJoin]
  | cons j0 rest =>
    have hmem : j0 ∈ c.joins := by rw [hjs]; simp
    have hone := hj.one j0 hmem
    rw [hjs] at hone
    have hrest : rest = [] := by simpa using hone
    subst hrest
    have hjid : f.jid = j0.jid := (hj.mine j0 hmem x hx f hf).1
    have hg : getJoin [j0] f.jid = j0 := by simp [getJoin, hjid]
    rw [hg]
    refine ⟨hjid.symm, hj.alive j0 hmem, hj.live j0 hmem, hj.fnd j0 hmem, hj.fheld j0 hmem, hj.held j0 hmem, hj.heldsent j0 hmem,
      hj.rpheld j0 hmem, ?_, ?_, ?_, ?_⟩
    · intro y; simp [hjs, heldE]
    · intro y; simp [hjs, heldR]
    · intro j hjj; simp [hjs, setJoin, hjj, hjid]
    · simp [hjs, dropJoin, hjid]

/-- `J` is `G` with the slot of `f` filled: it also holds the event `mid` (and the reply `rp`) -/
structure JAfter (d : Cfg) (f : Frame) (mid : Nat) (rp : Option Nat) (G J : Join) : Prop where
  jid : J.jid = f.jid
  alive : J.dead = false
  live : J.ended = false
  filled : ∀ i, i ∈ J.filled ↔ i = f.idx ∨ i ∈ G.filled
  fnd : J.filled.Nodup
  heldEv : ∀ q, q ∈ J.heldEv ↔ q ∈ G.heldEv ∨ q = (f.idx, mid)
  heldRp : ∀ x, x ∈ J.heldRp ↔ rp = some x ∨ x ∈ G.heldRp

theorem JAfter.of_gjoin {d : Cfg} {f : Frame} {mid : Nat} {rp : Option Nat} (hG : GJoin d f (getJoin d.joins f.jid))
    (hfree : mid ∉ heldE d.joins) : JAfter d f mid rp (getJoin d.joins f.jid) (joinAfter d.joins f mid rp) := by
  have hnew : ∀ q ∈ (getJoin d.joins f.jid).heldEv, q.2 ≠ mid := by
    intro q hq he
    exact hfree ((hG.hE mid).mpr ⟨q, hq, he⟩)
  refine ⟨hG.jid, hG.alive, hG.live, ?_, nodup_insertNat hG.fnd, ?_, ?_⟩
  · intro i; simp only [joinAfter]; exact mem_insertNat
  · intro q; simp only [joinAfter]; exact mem_insertHeld hnew q
  · intro x
    cases rp with
    | none => simp [joinAfter]
    | some r => simp [joinAfter, mem_insertNat, eq_comm]

theorem GJoin.jinv {c : Cfg} {f : Frame} {G : Join} (hG : GJoin c f G) (hj : c.joins = [G])
    (hmine : ∀ p ∈ evK c, ∀ f', evStack p.2 = [f'] → f'.jid = G.jid ∧ G.filled.length < f'.width)
    (ht : ∀ x ∈ heldE [G], x ∉ c.timers ∧ x ∉ c.pending) (hro : ∀ x ∈ heldR [G], x ∉ c.orphans) (hne : evK c ≠ []) : JInv c := by
  have one : ∀ {P : Join → Prop}, P G → ∀ j ∈ c.joins, P j := fun h j hjm => List.mem_singleton.mp (hj ▸ hjm) ▸ h
  exact ⟨one hj, one hG.alive, one hmine, one hG.fnd, one hG.fheld, one hG.held, one hG.heldsent, one hG.rpheld, hj ▸ ht, hj ▸ hro,
    fun h0 => absurd h0 hne, one hG.live⟩

/-- the branch of the event in hand has ended: `J` takes the place of the record there was, complete or not -/
theorem held_after {N : Nat} {d : Cfg} {m : QEv} {rp : Option Nat} {f : Frame}
    (h : Mid N d m.id rp) (hm : m ∈ d.evq) (hstk : evStack m.kind = [f])
    (hlast : lastVisit m.kind = true) (hkt : isTaskKind m.kind = true → rp = some m.id) {J : Join}
    (hJe : joinAfter d.joins f m.id rp = J) :
    GJoin { d with joins := [J] } f J ∧ VolI { d with joins := [J] } ∧
      (∀ x ∈ heldE [J], x ∉ d.timers ∧ x ∉ d.pending) ∧ ∀ x ∈ heldR [J], x ∉ d.orphans := by
  obtain ⟨-, hV, -, hJ, -, hin, hrpok, hnorp⟩ := h
  have hxin : (m.id, m.kind) ∈ evK d := mem_evK hm
  have hG := GJoin.of_jinv hJ hxin hstk
  have hfree := hV.free_ev m.id rfl
  have hA := JAfter.of_gjoin (rp := rp) hG hfree.2.2
  rw [hJe] at hA
  generalize getJoin d.joins f.jid = G at hG hA
  have hE : ∀ x, x ∈ heldE [J] ↔ ∃ q ∈ J.heldEv, q.2 = x := fun x => by simp [heldE]
  have hE' : ∀ x, x ∈ heldE [J] ↔ x = m.id ∨ x ∈ heldE d.joins := fun x => by
    simp [hE, hG.hE, hA.heldEv, or_and_right, exists_or, or_comm, eq_comm]
  have hR' : ∀ x, x ∈ heldR [J] ↔ rp = some x ∨ x ∈ heldR d.joins := fun x => by
    rw [hG.hR x, ← hA.heldRp x]; simp [heldR]
  refine ⟨?_, (hV.hold hin (fun x hx => (hrpok x hx).2.1) hE' hR').toI, ?_, ?_⟩
  · exact
      { jid := hA.jid
        alive := hA.alive
        live := hA.live
        fnd := hA.fnd
        fheld := by
          intro i hi
          rcases (hA.filled i).mp hi with rfl | hi
          · exact ⟨m.id, (hA.heldEv _).mpr (.inr rfl)⟩
          · exact (hG.fheld i hi).imp fun x hx => (hA.heldEv _).mpr (.inl hx)
        held := by
          intro q hq
          rcases (hA.heldEv q).mp hq with hq | rfl
          · exact ⟨(hA.filled _).mpr (.inr (hG.held q hq).1), (hG.held q hq).2⟩
          · exact ⟨(hA.filled _).mpr (.inl rfl), (m.id, m.kind), hxin, rfl, kIdx_of_stack hstk, hlast,
              fun ht => (hrpok _ (hkt ht)).2.2⟩
        heldsent := by
          intro q hq hs
          rcases (hA.heldEv q).mp hq with hq | rfl
          · exact (hA.heldRp _).mpr (.inr (hG.heldsent q hq hs))
          · cases rp with
            | none => exact absurd hs (hnorp rfl)
            | some r =>
              obtain ⟨rfl, -, -⟩ := hrpok r rfl
              exact (hA.heldRp _).mpr (.inl rfl)
        rpheld := by
          intro x hx
          rcases (hA.heldRp x).mp hx with hx | hx
          · obtain ⟨rfl, -, -⟩ := hrpok x hx
            exact ⟨(f.idx, m.id), (hA.heldEv _).mpr (.inr rfl), rfl⟩
          · obtain ⟨q, hq, hq2⟩ := hG.rpheld x hx
            exact ⟨q, (hA.heldEv _).mpr (.inl hq), hq2⟩
        hE := hE
        hR := fun x => by simp [heldR]
        set := fun j hj => by simp [setJoin, hj, hA.jid]
        drop := by simp [dropJoin, hA.jid] }
  · intro x hx
    rcases (hE' x).mp hx with rfl | hx
    · exact ⟨hfree.1, hfree.2.1⟩
    · exact hJ.ht x hx
  · intro x hx
    rcases (hR' x).mp hx with e | hx
    · exact (hV.free_rp x e).1
    · exact hJ.hro x hx

/-- the branch of the event in hand has ended and its join is not complete: the event (and the reply) are held -/
theorem fin_hold {N : Nat} {d : Cfg} {m : QEv} {rp : Option Nat} {f : Frame}
    (h : Mid N d m.id rp) (hm : m ∈ d.evq) (hu : m.unacked = true) (hstk : evStack m.kind = [f])
    (hlast : lastVisit m.kind = true) (hkt : isTaskKind m.kind = true → rp = some m.id)
    (hlt : (joinAfter d.joins f m.id rp).filled.length < f.width) :
    PInv N { d with joins := setJoin d.joins (joinAfter d.joins f m.id rp) } ∧
      mu2 { d with joins := setJoin d.joins (joinAfter d.joins f m.id rp) } ≤ mu2 d := by
  obtain ⟨hG, hVI, ht, hro⟩ := held_after h hm hstk hlast hkt rfl
  have hxin : (m.id, m.kind) ∈ evK d := mem_evK hm
  rw [(GJoin.of_jinv h.join hxin hstk).set _ hG.jid]
  refine ⟨⟨h.dur.congr, hVI,
    ⟨fun p hp hst => absurd hst (no_top h.shape h.dur.ids hxin hstk p hp), h.shape.same, h.shape.cover, h.shape.jlt⟩,
    hG.jinv rfl (fun p hp f' hf' => ?_) ht hro (List.ne_nil_of_mem hxin), h.cons.congr⟩, Nat.le_refl _⟩
  have hs := h.shape.same p hp _ hxin f' f hf' hstk
  exact ⟨hG.jid ▸ hs.1, (show f'.width = f.width by simp [Frame.width, hs.2.1]) ▸ hlt⟩

theorem lastVisit_tasks {k : EvKind} (h : lastVisit k = true) :
    tasksIn (todoOf k) = if isTaskKind k then 1 else 0 := by
  cases k with
  | reenter _ _ _ _ => rfl
  | visit t stack start owner =>
    unfold lastVisit at h
    split at h <;> simp_all [todoOf, tasksIn, isTaskKind]

/-- what holds when the join of the event in hand is complete -/
structure Complete (d : Cfg) (f : Frame) (J : Join) : Prop where
  allheld : ∀ e ∈ d.evq, e.id ∈ J.heldEv.map (·.2) ∧ e.unacked = true
  allrp : ∀ r ∈ d.rpq, r.corr ∈ J.heldRp ∧ r.unacked = true
  heldlt : ∀ x ∈ J.heldEv.map (·.2), x < d.nextId
  timers : d.timers = []
  pending : d.pending = []
  orphans : d.orphans = []
  tasks : ((evK d).map (fun p => tasksIn (todoOf p.2))).sum = inflight2 d
  restT : ((evK d).map (fun p => restT p.2)).sum = tasksIn f.rest
  restW : 8 * visits f.rest + 8 ≤ (d.evq.map (fun e => evW e + restW e.kind)).sum
  restflat : f.rest.flat = true

theorem complete_of {N : Nat} {d : Cfg} {m : QEv} {rp : Option Nat} {f : Frame}
    (h : Mid N d m.id rp) (hm : m ∈ d.evq) (hu : m.unacked = true) (hstk : evStack m.kind = [f])
    (hlast : lastVisit m.kind = true) (hkt : isTaskKind m.kind = true → rp = some m.id)
    (hge : f.width ≤ (joinAfter d.joins f m.id rp).filled.length) :
    Complete d f (joinAfter d.joins f m.id rp) := by
  obtain ⟨hG, hVI, ht, hro⟩ := held_after h hm hstk hlast hkt rfl
  obtain ⟨hD, -, hS, -, hC, -, -, -⟩ := h
  generalize joinAfter d.joins f m.id rp = J at *
  have hxin : (m.id, m.kind) ∈ evK d := mem_evK hm
  have hidx : ∀ p ∈ evK d, kIdx p.2 < f.width := fun p hp => by
    obtain ⟨f', hf', -, -, hi⟩ := branch_frame hD hS hxin hstk hp
    exact kIdx_of_stack hf' ▸ hi
  have inj : ∀ p ∈ evK d, ∀ q ∈ evK d, kIdx p.2 = kIdx q.2 → p = q := fun p hp q hq =>
    slot_inj hD hS hp hq (no_top hS hD.ids hxin hstk p hp)
  -- all slots are filled
  have hfl : ∀ i ∈ J.filled, i < f.width := by
    intro i hi
    obtain ⟨x, hx⟩ := hG.fheld i hi
    obtain ⟨-, p, hp, -, hpi, -⟩ := hG.held _ hx
    exact (show kIdx p.2 = i from hpi) ▸ hidx p hp
  have hfull := nodup_lt_full f.width J.filled hG.fnd hfl hge
  -- so every event is held, as the event of its slot
  have hheld : ∀ p ∈ evK d, (kIdx p.2, p.1) ∈ J.heldEv ∧ lastVisit p.2 = true ∧ (isTaskKind p.2 = true → p.1 ∈ d.sent) := by
    intro p hp
    obtain ⟨x, hx⟩ := hG.fheld _ (hfull _ (hidx p hp))
    obtain ⟨-, p', hp', hp'1, hp'i, hl, hs⟩ := hG.held _ hx
    cases inj p' hp' p hp hp'i
    exact ⟨(show p.1 = x from hp'1) ▸ hx, hl, hs⟩
  have hE : ∀ p ∈ evK d, p.1 ∈ heldE [J] := fun p hp => mem_heldE (List.mem_singleton.mpr rfl) (hheld p hp).1
  -- every reply is held: it answers an event of the queue, which is held
  have hrp : ∀ r ∈ d.rpq, r.corr ∈ J.heldRp ∧ r.unacked = true := by
    intro r hr
    have hc : r.corr ∈ rpC d := List.mem_map.mpr ⟨r, hr, rfl⟩
    obtain ⟨p, hp, hpz⟩ := hC.fresh _ hc
    have hin' : r.corr ∈ J.heldRp := hpz ▸ hG.heldsent _ (hheld p hp).1 (hpz ▸ hD.corrsent _ hc)
    obtain ⟨r', hr', hu', hc'⟩ := mem_uRp.mp (hVI.hr_sub _ ((hG.hR _).mpr hin'))
    exact ⟨hin', eq_of_nodup_map (·.corr) (show (d.rpq.map (·.corr)).Nodup from hD.corrnd) hr' hr hc' ▸ hu'⟩
  -- nothing else is registered
  have hnoreg : ∀ x ∈ uEv d.evq, x ∉ d.timers ∧ x ∉ d.pending := by
    intro x hx
    obtain ⟨e, he, -, rfl⟩ := mem_uEv.mp hx
    exact ht _ (hE _ (mem_evK he))
  have hw : 0 < f.width := Nat.lt_of_le_of_lt (Nat.zero_le _) (hidx _ hxin)
  obtain ⟨p0, hp0, f0, hf0, hi0⟩ := hS.cover _ hxin f hstk 0 hw
  have hr0 : f0.rest = f.rest := (hS.same p0 hp0 _ hxin f0 f hf0 hstk).2.2.1
  refine ⟨fun e he => ⟨List.mem_map.mpr ⟨_, (hheld _ (mem_evK he)).1, rfl⟩, ?_⟩, hrp, ?_,
    List.eq_nil_iff_forall_not_mem.mpr fun t ht' => (hnoreg t (hVI.t_sub t ht')).1 ht',
    List.eq_nil_iff_forall_not_mem.mpr fun t ht' => (hnoreg t (hVI.p_sub t ht').1).2 ht',
    List.eq_nil_iff_forall_not_mem.mpr fun o ho => ?_, ?_, ?_, ?_, ?_⟩
  · obtain ⟨e', he', hu', hid'⟩ := mem_uEv.mp (hVI.he_sub _ (hE _ (mem_evK he)))
    exact eq_of_nodup_map (·.id) hD.idnd he' he hid' ▸ hu'
  · intro x hx
    obtain ⟨q, hq, rfl⟩ := List.mem_map.mp hx
    obtain ⟨-, p, hp, hp1, -⟩ := hG.held q hq
    exact hp1 ▸ hD.idlt p hp
  · obtain ⟨r, hr, -, rfl⟩ := mem_uRp.mp (hVI.o_sub o ho)
    exact hro _ ((hG.hR _).mpr (hrp r hr).1) ho
  · -- a last visit is a Task visit exactly when its request is out
    unfold inflight2
    apply sum_indicator
    intro p hp
    rw [lastVisit_tasks (hheld p hp).2.1]
    by_cases ht : isTaskKind p.2 = true
    · simp [ht, (hheld p hp).2.2 ht]
    · have hns : p.1 ∉ d.sent := fun hs => ht (hD.reply p hp hs).1
      simp [ht, hns]
  · -- what follows the fan-out state is carried by the event of the first branch
    apply sum_single (evK d) (fun p => restT p.2) (fun p => kIdx p.2 == 0) (tasksIn f.rest)
    · intro p hp
      obtain ⟨f', hf', -, hr, -⟩ := branch_frame hD hS hxin hstk hp
      simp only [restT, kIdx, hf', hr, beq_iff_eq]
    · exact List.Pairwise.of_map (·.1) (fun _ _ hab e => hab (e ▸ rfl)) hD.ids
    · exact fun p hp q hq hbp hbq => inj p hp q hq ((beq_iff_eq.mp hbp).trans (beq_iff_eq.mp hbq).symm)
    · exact ⟨p0, hp0, by rw [kIdx_of_stack hf0, hi0]; rfl⟩
  · obtain ⟨e0, he0, rfl⟩ := List.mem_map.mp hp0
    have hge' : evW e0 + restW e0.kind ≤ _ := sum_ge_of_mem d.evq (fun e => evW e + restW e.kind) he0
    have : restW e0.kind = 8 * visits f.rest + 8 := by simp [restW, show evStack e0.kind = [f0] from hf0, hi0, hr0]
    omega
  · obtain ⟨f', -, hwf, hr, -⟩ := branch_frame hD hS hxin hstk hxin
    exact hr ▸ (Frame.wf_iff.mp hwf).2.2.1

theorem count_of_complete {N : Nat} {d : Cfg} {f : Frame} {J : Join} (hc : Complete d f J) (hC : Cons2 N d) :
    d.sent.length + tasksIn f.rest = N := by
  have hphi := hC.phi
  simp only [load2] at hphi
  rw [sum_map_add (evK d) (fun p => tasksIn (todoOf p.2)) (fun p => restT p.2), hc.tasks, hc.restT] at hphi
  omega

theorem fold_release {d : Cfg} {f : Frame} {J : Join} (hc : Complete d f J) (hnd : (rpC d).Nodup)
    (c1 : Cfg) (news : List QEv)
    (h1 : c1.evq = d.evq ++ news) (hnews : ∀ e ∈ news, d.nextId ≤ e.id) (h2 : c1.rpq = d.rpq) :
    List.foldl Cfg.act c1 (releaseOf J) = { c1 with evq := news, rpq := [] } := by
  have hmap : J.heldEv.map (fun p => Act.ackEv p.2) = (J.heldEv.map (·.2)).map Act.ackEv := by simp [Function.comp_def]
  rw [releaseOf, List.foldl_append, hmap, foldl_ackEv, foldl_ackRp]
  · congr 1
    · -- the events there were are held and unacknowledged; the new ones are not held
      rw [h1, List.filter_append, List.filter_eq_nil_iff.mpr, List.filter_eq_self.mpr, List.nil_append]
      · intro e he
        have : e.id ∉ J.heldEv.map (·.2) := fun hh => Nat.lt_irrefl _ (Nat.lt_of_lt_of_le (hc.heldlt _ hh) (hnews e he))
        simp [this]
      · intro e he
        simp [hc.allheld e he]
    · rw [h2, List.filter_eq_nil_iff]
      intro r hr
      simp [hc.allrp r hr]
  · exact h2 ▸ hnd

/-- after the first operation `a`, which publishes `news`, and the release of what the complete join holds, `news` is all there is -/
theorem released {N : Nat} {d : Cfg} {m : QEv} {rp : Option Nat} {f : Frame} (h : Mid N d m.id rp) (hm : m ∈ d.evq)
    (hstk : evStack m.kind = [f]) (hc : Complete d f (joinAfter d.joins f m.id rp)) (a : Act) (news : List QEv)
    (h1 : (d.act a).evq = d.evq ++ news) (hnews : ∀ e ∈ news, d.nextId ≤ e.id) (h2 : (d.act a).rpq = d.rpq) :
    (List.foldl Cfg.act d ([a] ++ releaseOf (joinAfter d.joins f m.id rp))).withVol
        { timers := d.timers, pending := d.pending, orphans := d.orphans, joins := dropJoin d.joins f.jid } =
      { d.act a with evq := news, rpq := [], timers := [], pending := [], orphans := [], joins := [] } := by
  rw [List.foldl_append, fold_release hc h.dur.corrnd (List.foldl Cfg.act d [a]) news h1 hnews h2,
    (GJoin.of_jinv h.join (mem_evK hm) hstk).drop, hc.timers, hc.pending, hc.orphans]
  rfl

/-- the branch of the event in hand has ended and completes its join; a visit follows the fan-out state: its event is
published, everything the join holds is released -/
theorem fin_join_next {N : Nat} {d : Cfg} {m : QEv} {rp : Option Nat} {f : Frame}
    (h : Mid N d m.id rp) (hm : m ∈ d.evq) (hu : m.unacked = true) (hstk : evStack m.kind = [f])
    (hlast : lastVisit m.kind = true) (hkt : isTaskKind m.kind = true → rp = some m.id)
    (hge : f.width ≤ (joinAfter d.joins f m.id rp).filled.length) (hv : f.rest.isVisit = true) :
    PInv N ((List.foldl Cfg.act d ([Act.pubEv (.visit f.rest [] false none)] ++ releaseOf (joinAfter d.joins f m.id rp))).withVol
        { timers := d.timers, pending := d.pending, orphans := d.orphans, joins := dropJoin d.joins f.jid }) ∧
      mu2 ((List.foldl Cfg.act d ([Act.pubEv (.visit f.rest [] false none)] ++ releaseOf (joinAfter d.joins f m.id rp))).withVol
        { timers := d.timers, pending := d.pending, orphans := d.orphans, joins := dropJoin d.joins f.jid }) ≤ mu2 d := by
  have hc := complete_of h hm hu hstk hlast hkt hge
  rw [released h hm hstk hc _ [{ id := d.nextId, kind := .visit f.rest [] false none }] (by simp [Cfg.act]) (by simp) rfl]
  have hD := h.dur
  have hn := count_of_complete hc h.cons
  refine ⟨PInv.fresh (e := { id := d.nextId, kind := .visit f.rest [] false none }) hc.restflat
    (Nat.lt_succ_self _) (fun x hx => Nat.lt_succ_of_lt (hD.sentlt x hx)) hD.sentnd (fun hh => Nat.lt_irrefl _ (hD.sentlt _ hh))
    (h.cons.psi1 (List.ne_nil_of_mem (mem_evK hm))) hD.nodiv hD.nofail hD.nodead hn, ?_⟩
  -- the new event weighs less than what the first branch's event carried for the rest
  have := hc.restW
  have hw : evW ({ id := d.nextId, kind := .visit f.rest [] false none } : QEv) +
      restW (EvKind.visit f.rest [] false none) = 8 * visits f.rest + 6 := rfl
  simp only [mu2, List.map_cons, List.map_nil, List.sum_cons, List.sum_nil, List.filter_nil, List.length_nil, hw]
  omega

/-- … the fan-out state was the last: the terminal notification, everything the join holds is released -/
theorem fin_join_end {N : Nat} {d : Cfg} {m : QEv} {rp : Option Nat} {f : Frame}
    (h : Mid N d m.id rp) (hm : m ∈ d.evq) (hu : m.unacked = true) (hstk : evStack m.kind = [f])
    (hlast : lastVisit m.kind = true) (hkt : isTaskKind m.kind = true → rp = some m.id)
    (hge : f.width ≤ (joinAfter d.joins f m.id rp).filled.length) (hv : f.rest = .done) :
    PInv N ((List.foldl Cfg.act d ([Act.note true] ++ releaseOf (joinAfter d.joins f m.id rp))).withVol
        { timers := d.timers, pending := d.pending, orphans := d.orphans, joins := dropJoin d.joins f.jid }) ∧
      mu2 ((List.foldl Cfg.act d ([Act.note true] ++ releaseOf (joinAfter d.joins f m.id rp))).withVol
        { timers := d.timers, pending := d.pending, orphans := d.orphans, joins := dropJoin d.joins f.jid }) ≤ mu2 d := by
  have hc := complete_of h hm hu hstk hlast hkt hge
  rw [released h hm hstk hc _ [] (by simp [Cfg.act]) (by simp) rfl]
  have hD := h.dur
  have hn := count_of_complete hc h.cons
  have hn0 := h.cons.psi1 (List.ne_nil_of_mem (mem_evK hm))
  rw [hv] at hn
  exact ⟨PInv.ended hD.sentlt hD.sentnd (congrArg (· + 1) hn0) hD.nodiv hD.nofail hD.nodead hn, by simp [mu2]⟩

end Asl.Crash
