/- The model's prefix scanners are `List.takeWhile` / `List.dropWhile`, `natStr` is `Nat.toDigits 10`, `digitsNat` is
`Nat.ofDigitChars 10`: what the round trips of the text grammars need about them then comes from the core library. -/
import AslModel.Intrinsic
namespace Asl

/-- 55296–57343 are the surrogates; 1114112 is the end of Unicode -/
theorem char_scalar (c : Char) : c.toNat < 55296 ∨ (57343 < c.toNat ∧ c.toNat < 1114112) :=
  c.valid

theorem ne_of_class {p : Char → Bool} {c d : Char} (hc : p c = true) (hd : p d = false) : c ≠ d := by
  rintro rfl; rw [hc] at hd; cases hd

theorem isWs_cases (c : Char) (h : isWs c = true) : c = ' ' ∨ c = '\n' ∨ c = '\r' ∨ c = '\t' := by
  simp [isWs] at h
  rcases h with ((h | h) | h) | h <;> simp [h]

theorem skipWs_head (c : Char) (tl : Str) (h : isWs c = false) : skipWs (c :: tl) = c :: tl := by
  simp [skipWs, h]

theorem skipWs_space (cs : Str) : skipWs (' ' :: cs) = skipWs cs := by
  simp [skipWs, isWs]

theorem not_ws_of_class {p : Char → Bool} {c : Char} (hc : p c = true)
    (hp : ∀ w ∈ [' ', '\n', '\r', '\t'], p w = false) : isWs c = false := by
  cases hw : isWs c with
  | false => rfl
  | true => rcases isWs_cases c hw with rfl | rfl | rfl | rfl <;> simp [hp] at hc

theorem isDigit_not_ws {c : Char} (h : c.isDigit = true) : isWs c = false :=
  not_ws_of_class h (by decide)

theorem isDigit_not_identStart {c : Char} (h : c.isDigit = true) : identStart c = false := by
  simp only [Char.isDigit, Bool.and_eq_true, decide_eq_true_eq, UInt32.le_iff_toNat_le] at h
  simp only [identStart, Char.isAlpha, Char.isUpper, Char.isLower, Bool.or_eq_false_iff,
    Bool.and_eq_false_iff, decide_eq_false_iff_not, UInt32.le_iff_toNat_le]
  have e : ('0'.val.toNat = 48 ∧ '9'.val.toNat = 57) ∧ ('A'.val.toNat = 65 ∧ 'Z'.val.toNat = 90) ∧
      'a'.val.toNat = 97 ∧ 'z'.val.toNat = 122 := by decide
  refine ⟨⟨by omega, by omega⟩, ?_⟩
  rintro rfl; simp at h

theorem takeWhile_dropWhile_append {p : Char → Bool} (n rest : Str) (hn : n.all p = true)
    (hr : ∀ c r, rest = c :: r → p c = false) :
    ((n ++ rest).takeWhile p, (n ++ rest).dropWhile p) = (n, rest) := by
  have hn' : ∀ a ∈ n, p a = true := by simpa using hn
  rw [List.takeWhile_append_of_pos hn', List.dropWhile_append_of_pos hn']
  cases rest with
  | nil => simp
  | cons c r => simp [hr c r rfl]

theorem takeName_eq (s : Str) : takeName s = (s.takeWhile nameChar, s.dropWhile nameChar) := by
  fun_induction takeName s <;> simp_all

theorem takeDigits_eq (s : Str) :
    takeDigits s = (s.takeWhile Char.isDigit, s.dropWhile Char.isDigit) := by
  fun_induction takeDigits s <;> simp_all

theorem takeIdent_eq (s : Str) : takeIdent s = (s.takeWhile identChar, s.dropWhile identChar) := by
  fun_induction takeIdent s <;> simp_all

theorem takePath_eq (s : Str) : takePath s = (s.takeWhile pathChar, s.dropWhile pathChar) := by
  fun_induction takePath s <;> simp_all

theorem allNameChars_eq (s : Str) : allNameChars s = s.all nameChar := by
  fun_induction allNameChars s <;> simp [*]

theorem allDigits_eq (s : Str) : allDigits s = s.all Char.isDigit := by
  fun_induction allDigits s <;> simp [*]

theorem allIdent_eq (s : Str) : allIdent s = s.all identChar := by
  fun_induction allIdent s <;> simp [*]

theorem allPath_eq (s : Str) : allPath s = s.all pathChar := by
  fun_induction allPath s <;> simp [*]

theorem takeName_append (n rest : Str) (hn : allNameChars n = true)
    (hr : ∀ c r, rest = c :: r → nameChar c = false) : takeName (n ++ rest) = (n, rest) := by
  rw [takeName_eq, takeWhile_dropWhile_append n rest (by rwa [← allNameChars_eq]) hr]

theorem takeDigits_append (n rest : Str) (hn : allDigits n = true)
    (hr : ∀ c r, rest = c :: r → c.isDigit = false) : takeDigits (n ++ rest) = (n, rest) := by
  rw [takeDigits_eq, takeWhile_dropWhile_append n rest (by rwa [← allDigits_eq]) hr]

theorem takeIdent_append (n rest : Str) (hn : allIdent n = true)
    (hr : ∀ c r, rest = c :: r → identChar c = false) : takeIdent (n ++ rest) = (n, rest) := by
  rw [takeIdent_eq, takeWhile_dropWhile_append n rest (by rwa [← allIdent_eq]) hr]

theorem takePath_append (n rest : Str) (hn : allPath n = true)
    (hr : ∀ c r, rest = c :: r → pathChar c = false) : takePath (n ++ rest) = (n, rest) := by
  rw [takePath_eq, takeWhile_dropWhile_append n rest (by rwa [← allPath_eq]) hr]

theorem toDigits_isDigit (n : Nat) : ∀ c ∈ Nat.toDigits 10 n, c.isDigit = true :=
  fun _ hc => Nat.isDigit_of_mem_toDigits (by decide) (by decide) hc

theorem toDigits_head (n : Nat) : ∃ c r, Nat.toDigits 10 n = c :: r ∧ c.isDigit = true := by
  cases h : Nat.toDigits 10 n with
  | nil => exact absurd h Nat.toDigits_ne_nil
  | cons c r => exact ⟨c, r, rfl, toDigits_isDigit n c (by simp [h])⟩

theorem idigitChar_eq : ∀ d, d < 10 → idigitChar d = Nat.digitChar d := by decide

theorem natStr_eq (n : Nat) : natStr n = Nat.toDigits 10 n := by
  fun_induction natStr n with
  | case1 n h => rw [idigitChar_eq n h, Nat.toDigits_of_lt_base h]
  | case2 n h ih =>
    rw [ih, idigitChar_eq _ (Nat.mod_lt _ (by decide)), Nat.toDigits_of_base_le (n := n) (by decide) (by omega)]

theorem digitsNat_eq (s : Str) : digitsNat s = Nat.ofDigitChars 10 s 0 := by
  simp only [digitsNat, Nat.ofDigitChars_eq_foldl, Nat.mul_comm 10]
  rfl

theorem digitsNat_natStr (n : Nat) : digitsNat (natStr n) = n := by
  rw [natStr_eq, digitsNat_eq, Nat.ofDigitChars_ten_toDigits]

theorem natStr_allDigits (n : Nat) : allDigits (natStr n) = true := by
  rw [allDigits_eq, natStr_eq, List.all_eq_true]
  exact toDigits_isDigit n

theorem natStr_head (n : Nat) : ∃ c r, natStr n = c :: r ∧ c.isDigit = true := by
  rw [natStr_eq]; exact toDigits_head n

end Asl
