/- helper lemmas for C19's routing model: the affinity invariant is preserved by every step -/
import AslModel.AmqpRoute
namespace Asl.AmqpRoute

/-- the invariant: queued later events sit in the queue of the instance that consumed their execution's
start event, and an instance holds continuations only of executions it started -/
structure Inv (s : Net) : Prop where
  later : ∀ q e, (q, e) ∈ s.later → ∃ j, q = .inst j ∧ s.st e = .owned j
  holds : ∀ i e, (i, e) ∈ s.holds → s.st e = .owned i

theorem lookup_cons_eq {ex : List (Nat × ExecSt)} {k : Nat} {v : ExecSt} : lookup ((k, v) :: ex) k = v := by
  simp [lookup]

theorem lookup_cons_ne {ex : List (Nat × ExecSt)} {k e : Nat} {v : ExecSt} (h : k ≠ e) :
    lookup ((k, v) :: ex) e = lookup ex e := by
  simp [lookup, h]

theorem owned_bind {s : Net} {k : Nat} (v : ExecSt) (hk : s.st k = .unused ∨ ∃ q, s.st k = .startQueued q)
    (e i : Nat) :
    ({ s with ex := (k, v) :: s.ex } : Net).st e = .owned i ↔ s.st e = .owned i ∨ (k = e ∧ v = .owned i) := by
  show lookup ((k, v) :: s.ex) e = .owned i ↔ _
  by_cases h : k = e
  · subst h
    rcases hk with hk | ⟨q, hk⟩ <;> simp [lookup_cons_eq, hk]
  · simp [lookup_cons_ne h, Net.st, h]

theorem inv_bind {s : Net} {k : Nat} {v : ExecSt} (hk : s.st k = .unused ∨ ∃ q, s.st k = .startQueued q)
    (h : Inv s) : Inv { s with ex := (k, v) :: s.ex } := by
  refine ⟨fun q e hq => ?_, fun i e hi => (owned_bind v hk e i).2 (.inl (h.holds i e hi))⟩
  obtain ⟨j, hj, hs⟩ := h.later q e hq
  exact ⟨j, hj, (owned_bind v hk e j).2 (.inl hs)⟩

theorem inv_hold {s : Net} {i e : Nat} (h : Inv s) (he : s.st e = .owned i) :
    Inv { s with holds := (i, e) :: s.holds } := by
  refine ⟨h.later, fun i' e' hi' => ?_⟩
  rcases List.mem_cons.mp hi' with hi' | hi'
  · cases hi'; exact he
  · exact h.holds i' e' hi'

theorem pub_cases {i : Nat} {s s' : Net} {o : Out} (hp : pub i s o = some s') :
    (∃ e, (i, e) ∈ s.holds ∧ s' = { s with later := s.later ++ [(.inst i, e)] }) ∨
    (∃ c q, s.st c = .unused ∧ s' = { s with ex := (c, .startQueued q) :: s.ex }) := by
  cases o <;> simp only [pub, Option.ite_none_right_eq_some, Option.some.injEq] at hp
  · exact .inl ⟨_, hp.1, hp.2.symm⟩
  · exact .inr ⟨_, _, hp.1, hp.2.symm⟩
  · exact .inr ⟨_, _, hp.1, hp.2.symm⟩

theorem pubs_induct {P : Net → Prop} {i : Nat} (hpub : ∀ {s s' o}, P s → pub i s o = some s' → P s') :
    ∀ {os : List Out} {s s' : Net}, P s → pubs i s os = some s' → P s'
  | [], s, s', h, hp => by cases hp; exact h
  | o :: os, s, s', h, hp => by
    simp only [pubs] at hp
    split at hp
    · exact pubs_induct hpub (hpub h ‹_›) hp
    · cases hp

theorem pub_inv {i : Nat} {s s' : Net} {o : Out} (h : Inv s) (hp : pub i s o = some s') : Inv s' := by
  rcases pub_cases hp with ⟨e, hh, rfl⟩ | ⟨c, q, hu, rfl⟩
  · refine ⟨fun q e' hq => ?_, h.holds⟩
    rcases List.mem_append.mp hq with hq | hq
    · exact h.later q e' hq
    · cases List.mem_singleton.mp hq
      exact ⟨i, rfl, h.holds i e hh⟩
  · exact inv_bind (.inl hu) h

theorem pubs_inv {i : Nat} {os : List Out} {s s' : Net} : Inv s → pubs i s os = some s' → Inv s' :=
  pubs_induct pub_inv

theorem mem_removeOne {x y : QName × Nat} {l : List (QName × Nat)} (h : y ∈ removeOne x l) : y ∈ l := by
  fun_induction removeOne x l <;> grind

theorem step_cases {s s' : Net} {a : Act} (hs : step s a = some s') :
    (∃ via e, a = .submit via e ∧ s.st e = .unused ∧
      s' = { s with ex := (e, .startQueued (route via true)) :: s.ex }) ∨
    (∃ e i outs q, a = .deliverStart e i outs ∧ s.st e = .startQueued q ∧ canConsume q i ∧
      pubs i { s with ex := (e, .owned i) :: s.ex, holds := (i, e) :: s.holds } outs = some s') ∨
    (∃ q e i outs, a = .deliverLater q e i outs ∧ (q, e) ∈ s.later ∧ canConsume q i ∧
      pubs i { s with later := removeOne (q, e) s.later, holds := (i, e) :: s.holds } outs = some s') ∨
    (∃ i outs, a = .spontaneous i outs ∧ pubs i s outs = some s') := by
  revert hs
  fun_cases step s a
  · rintro ⟨⟩
    exact .inl ⟨_, _, rfl, ‹_›, rfl⟩
  · rintro ⟨⟩
  · exact fun hs => .inr (.inl ⟨_, _, _, _, rfl, ‹_›, ‹_›, hs⟩)
  · rintro ⟨⟩
  · rintro ⟨⟩
  · exact fun hs => .inr (.inr (.inl ⟨_, _, _, _, rfl, ‹_ ∧ _›.1, ‹_ ∧ _›.2, hs⟩))
  · rintro ⟨⟩
  · exact fun hs => .inr (.inr (.inr ⟨_, _, rfl, hs⟩))

theorem step_inv {s s' : Net} {a : Act} (h : Inv s) (hs : step s a = some s') : Inv s' := by
  rcases step_cases hs with ⟨via, e, rfl, hu, rfl⟩ | ⟨e, i, outs, q, rfl, hq, _, hp⟩ |
    ⟨q, e, i, outs, rfl, hm, hc, hp⟩ | ⟨i, outs, rfl, hp⟩
  · exact inv_bind (.inl hu) h
  · exact pubs_inv (inv_hold (inv_bind (.inr ⟨q, hq⟩) h) lookup_cons_eq) hp
  · -- the event sat in the queue of the instance that owns its execution, and only that instance may take it
    obtain ⟨j, rfl, hst⟩ := h.later q e hm
    obtain rfl : i = j := hc
    have h1 : Inv { s with later := removeOne (.inst i, e) s.later } :=
      ⟨fun q' e' hq' => h.later q' e' (mem_removeOne hq'), h.holds⟩
    exact pubs_inv (inv_hold h1 hst) hp
  · exact pubs_inv h hp

theorem inv_init : Inv {} := by
  refine ⟨?_, ?_⟩ <;> intro a b hab <;> simp at hab

theorem run_inv : ∀ {acts : List Act} {s s' : Net}, Inv s → run s acts = some s' → Inv s'
  | [], s, s', h, hr => by cases hr; exact h
  | a :: as, s, s', h, hr => by
    simp only [run] at hr
    split at hr
    · exact run_inv (step_inv h ‹_›) hr
    · cases hr

theorem reachable_inv {s : Net} (h : Reachable s) : Inv s := by
  obtain ⟨acts, ha⟩ := h
  exact run_inv inv_init ha

theorem pub_owned {i : Nat} {s s' : Net} {o : Out} (hp : pub i s o = some s') (e j : Nat) :
    s'.st e = .owned j ↔ s.st e = .owned j := by
  rcases pub_cases hp with ⟨_, _, rfl⟩ | ⟨c, q, hu, rfl⟩
  · rfl
  · simpa using owned_bind (.startQueued q) (.inl hu) e j

theorem pubs_owned {i : Nat} {os : List Out} {s s' : Net} (hp : pubs i s os = some s') (e j : Nat) :
    s'.st e = .owned j ↔ s.st e = .owned j :=
  pubs_induct (P := fun t => t.st e = .owned j ↔ s.st e = .owned j) (fun h hp => (pub_owned hp e j).trans h)
    Iff.rfl hp

end Asl.AmqpRoute
