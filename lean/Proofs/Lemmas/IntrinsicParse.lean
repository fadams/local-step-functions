/- One lemma per kind of token says what `parseArg` does on it; the mutual induction over the syntax tree then
only follows the recursion. -/
import AslModel.Intrinsic
import Proofs.Lemmas.Scan
namespace Asl

theorem parseQ_escStr (s rest : Str) :
    parseQ false (escStr s ++ '\'' :: rest) = some (s, rest) := by
  fun_induction escStr s <;> simp [parseQ, *]

theorem tokenEnd_not (p : Char → Bool) (hp : ∀ c ∈ [' ', '\n', '\r', '\t', ',', ')'], p c = false)
    (rest : Str) (h : tokenEnd rest = true) : ∀ c r, rest = c :: r → p c = false := by
  rintro c r rfl
  simp only [tokenEnd, Bool.or_eq_true, decide_eq_true_eq] at h
  rcases h with (h | rfl) | rfl
  · rcases isWs_cases c h with rfl | rfl | rfl | rfl <;> exact hp _ (by decide)
  · exact hp _ (by decide)
  · exact hp _ (by decide)

theorem parseNat_natStr (n : Nat) (rest : Str) (h : tokenEnd rest = true) :
    parseNat (natStr n ++ rest) = some (n, rest) := by
  have h1 := takeDigits_append (natStr n) rest (natStr_allDigits n) (tokenEnd_not Char.isDigit (by decide) rest h)
  obtain ⟨c, r, hr, _⟩ := natStr_head n
  have h2 := digitsNat_natStr n
  unfold parseNat
  rw [h1]
  rw [hr] at h2 ⊢
  simp [h, h2]

theorem identStart_facts (c : Char) (h : identStart c = true) :
    isWs c = false ∧ c ≠ '\'' ∧ c ≠ '$' :=
  ⟨not_ws_of_class h (by decide), ne_of_class h (by decide), ne_of_class h (by decide)⟩

theorem parseArg_space (fuel : Nat) (cs : Str) : parseArg fuel (' ' :: cs) = parseArg fuel cs := by
  cases fuel with
  | zero => simp [parseArg]
  | succ f =>
    rw [parseArg, parseArg, skipWs_space]

theorem parseArgs1_space (fuel : Nat) (cs : Str) :
    parseArgs1 fuel (' ' :: cs) = parseArgs1 fuel cs := by
  cases fuel with
  | zero => simp [parseArgs1]
  | succ f => rw [parseArgs1, parseArgs1, parseArg_space]

theorem pathOk_inv {p : Str} (h : pathOk p = true) : ∃ cs, p = '$' :: cs ∧ allPath cs = true := by
  unfold pathOk at h
  split at h
  · exact ⟨_, rfl, h⟩
  · cases h

theorem identOk_inv {f : Str} (h : identOk f = true) :
    ∃ c n, f = c :: n ∧ identStart c = true ∧ allIdent n = true := by
  cases f with
  | nil => cases h
  | cons c n => exact ⟨c, n, rfl, by simpa [identOk] using h⟩

/-- what may follow an argument: the end of the text, a comma or a closing bracket -/
def Follow (rest : Str) : Prop := rest = [] ∨ ∃ r, rest = ',' :: r ∨ rest = ')' :: r

theorem Follow.nil : Follow [] := .inl rfl

theorem Follow.comma (r : Str) : Follow (',' :: r) := .inr ⟨r, .inl rfl⟩

theorem Follow.paren (r : Str) : Follow (')' :: r) := .inr ⟨r, .inr rfl⟩

theorem Follow.tokenEnd {rest : Str} (h : Follow rest) : tokenEnd rest = true := by
  rcases h with h | ⟨r, h | h⟩ <;> subst h <;> simp [Asl.tokenEnd]

theorem Follow.notCall {rest : Str} (h : Follow rest) : ∀ x, skipWs rest ≠ '(' :: x := by
  intro x
  rcases h with h | ⟨r, h | h⟩ <;> subst h <;> simp [skipWs, isWs]

theorem parseArg_int (f : Nat) (n : Int) (rest : Str) (hr : Follow rest) :
    parseArg (f + 1) (intStr n ++ rest) = some (.int n, rest) := by
  have h1 := parseNat_natStr n.natAbs rest hr.tokenEnd
  by_cases hn : n < 0
  · have : (-(n.natAbs : Int)) = n := by omega
    simp [intStr, hn, parseArg, skipWs, isWs, identStart, h1, this]
  · obtain ⟨c, r, hc, hd⟩ := natStr_head n.natAbs
    have : ((n.natAbs : Nat) : Int) = n := by omega
    rw [hc, List.cons_append] at h1
    simp [intStr, hn, hc, parseArg, skipWs, hd, isDigit_not_ws hd,
      isDigit_not_identStart hd, (ne_of_class hd (by decide) : c ≠ '\''),
      (ne_of_class hd (by decide) : c ≠ '$'), (ne_of_class hd (by decide) : c ≠ '-'), h1, this]

theorem parseArg_keyword (f : Nat) (c : Char) (n : Str) (a : Arg) (rest : Str)
    (hc : identStart c = true) (hn : allIdent n = true) (hk : keyword (c :: n) = some a)
    (hr : Follow rest) : parseArg (f + 1) (c :: n ++ rest) = some (a, rest) := by
  have hfc := identStart_facts c hc
  have h1 := takeIdent_append n rest hn (tokenEnd_not identChar (by decide) rest hr.tokenEnd)
  rw [List.cons_append, parseArg, skipWs_head _ _ hfc.1]
  simp only [hfc.2.1, hfc.2.2, hc, if_false, if_true, h1]
  split
  · rename_i heq; exact absurd heq (hr.notCall _)
  · simp [hk, hr.tokenEnd]

theorem parseArg_path (f : Nat) (cs rest : Str) (hp : allPath cs = true) (hr : Follow rest) :
    parseArg (f + 1) ('$' :: cs ++ rest) = some (.path ('$' :: cs), rest) := by
  have h1 := takePath_append cs rest hp (tokenEnd_not pathChar (by decide) rest hr.tokenEnd)
  rw [List.cons_append, parseArg, skipWs_head _ _ (by decide)]
  simp [h1, hr.tokenEnd]

theorem parseArg_call (f : Nat) (c : Char) (n body : Str) (as : List Arg) (rest : Str)
    (hc : identStart c = true) (hn : allIdent n = true)
    (he : parseArgs f body = some (as, rest)) :
    parseArg (f + 1) (c :: n ++ '(' :: body) = some (.call (c :: n) as, rest) := by
  have hfc := identStart_facts c hc
  have h1 := takeIdent_append n ('(' :: body) hn (by intro c' r' h; cases h; decide)
  rw [List.cons_append, parseArg, skipWs_head _ _ hfc.1]
  simp [hfc.2.1, hfc.2.2, hc, h1, skipWs, isWs, he]

/-- what `parseArgs1` accepts does not begin with `)` -/
theorem parseArgs_of_parseArgs1 (f : Nat) (cs : Str) (r : List Arg × Str)
    (h : parseArgs1 f cs = some r) : parseArgs (f + 1) cs = some r := by
  rw [parseArgs]
  split
  · rename_i r' hcs
    have : ∀ g, parseArg g cs = none := by
      intro g
      cases g with
      | zero => rfl
      | succ g => simp [parseArg, hcs, identStart]
    cases f with
    | zero => simp [parseArgs1] at h
    | succ f => simp [parseArgs1, this] at h
  · exact h

theorem Arg.size_pos (a : Arg) : 1 ≤ a.size := by
  cases a <;> simp only [Arg.size] <;> omega

mutual
theorem parseArg_print : (a : Arg) → a.wf = true → ∀ fuel rest, a.size ≤ fuel →
    Follow rest → parseArg fuel (printArg a ++ rest) = some (a, rest)
  | a, _, 0, _, hf, _ => by have := a.size_pos; omega
  | .str s, _, f + 1, rest, _, _ => by simp [printArg, parseArg, skipWs, isWs, parseQ_escStr]
  | .int n, _, f + 1, rest, _, hr => parseArg_int f n rest hr
  | .null, _, f + 1, rest, _, hr =>
    parseArg_keyword f 'n' ['u', 'l', 'l'] .null rest (by decide) (by decide) rfl hr
  | .bool true, _, f + 1, rest, _, hr =>
    parseArg_keyword f 't' ['r', 'u', 'e'] (.bool true) rest (by decide) (by decide) rfl hr
  | .bool false, _, f + 1, rest, _, hr =>
    parseArg_keyword f 'f' ['a', 'l', 's', 'e'] (.bool false) rest (by decide) (by decide) rfl hr
  | .path p, hw, f + 1, rest, _, hr => by
    obtain ⟨cs, rfl, hp⟩ := pathOk_inv (by simpa [Arg.wf] using hw)
    exact parseArg_path f cs rest hp hr
  | .call fn args, hw, f + 1, rest, hf, _ => by
    simp only [Arg.wf, Bool.and_eq_true] at hw
    obtain ⟨c, n, rfl, hc, hn⟩ := identOk_inv hw.1
    have he : parseArgs f (printArgs args ++ ')' :: rest) = some (args, rest) := by
      -- `match`, not `cases`: the recursion stays structural
      match f, hf with
      | 0, hf => simp only [Arg.size] at hf; omega
      | f2 + 1, hf =>
        cases args with
        | nil => simp [printArgs, parseArgs, skipWs, isWs]
        | cons a as =>
          exact parseArgs_of_parseArgs1 f2 _ _
            (parseArgs1_print a as hw.2 f2 rest (by simp only [Arg.size] at hf; omega))
    simpa [printArg] using parseArg_call f c n _ args rest hc hn he
theorem parseArgs1_print : (a : Arg) → (as : List Arg) → Arg.wfL (a :: as) = true →
    ∀ fuel rest, Arg.sizeL (a :: as) ≤ fuel →
    parseArgs1 fuel (printArgs (a :: as) ++ ')' :: rest) = some (a :: as, rest)
  | a, as, _, 0, _, hf => by simp [Arg.sizeL] at hf
  | a, [], hw, f + 1, rest, hf => by
    simp only [Arg.wfL, Bool.and_eq_true] at hw
    have h1 := parseArg_print a hw.1 f (')' :: rest) (by simp [Arg.sizeL] at hf; omega) (.paren rest)
    simp only [printArgs]
    rw [parseArgs1, h1]
    simp [skipWs, isWs]
  | a, b :: bs, hw, f + 1, rest, hf => by
    simp only [Arg.wfL, Bool.and_eq_true] at hw
    have hsz : a.size ≤ f ∧ Arg.sizeL (b :: bs) ≤ f := by
      simp only [Arg.sizeL] at hf ⊢; omega
    have h1 := parseArg_print a hw.1 f (',' :: ' ' :: (printArgs (b :: bs) ++ ')' :: rest)) hsz.1 (.comma _)
    have h2 := parseArgs1_print b bs (by simpa [Arg.wfL] using hw.2) f rest hsz.2
    simp only [printArgs, List.append_assoc, List.cons_append]
    rw [parseArgs1, h1]
    simp [skipWs, isWs, parseArgs1_space, h2]
end

mutual
theorem Arg.size_le_print : (a : Arg) → a.size ≤ 2 * (printArg a).length + 1
  | .str _ => by simp [Arg.size]
  | .int _ => by simp [Arg.size]
  | .null => by simp [Arg.size]
  | .bool _ => by simp [Arg.size]
  | .path _ => by simp [Arg.size]
  | .call f args => by
    have := sizeL_le_print args
    simp only [Arg.size, printArg, List.length_append, List.length_cons, List.length_nil]
    omega
theorem sizeL_le_print : (as : List Arg) → Arg.sizeL as ≤ 2 * (printArgs as).length + 2
  | [] => by simp [Arg.sizeL]
  | [a] => by
    have := Arg.size_le_print a
    simp only [Arg.sizeL, printArgs]; omega
  | a :: b :: rest => by
    have h1 := Arg.size_le_print a
    have h2 := sizeL_le_print (b :: rest)
    simp only [Arg.sizeL, printArgs, List.length_append, List.length_cons] at *
    omega
end

end Asl
