/-
`Reach W k a b`: the state `b` arises from `a` by the state operations the seven mutually recursive functions of the
reference semantics (AslModel/Interp.lean) perform, as they perform them.  `reachAll`: every run goes on along such a
path, so an invariant of runs is an induction over `Reach`, one case per operation.
* `k`, `fan`: the fan-out levels (`FS.lvl`, `FS.outer`) are preserved not by each operation but because a Parallel /
  Map state is a bracket (push, operations on the branches, pop).  So a fan-out is one step whose inside is a path
  with `k = true`, and only there the branch-level operations are allowed (an index, not a second relation, so that
  `induction` applies).
* `W now t`: time may pass from `now` until `t`; the interpreter waits only for instants its guards admit (`Env.Timely`).
* `atClock`: joining branches sets the clock back, always to the clock of a state of this run.
-/
import AslModel.Interp
import Proofs.Lemmas.Clock
namespace Asl

inductive Reach (W : Rat → Rat → Prop) : Bool → St → St → Prop
  | refl (k a) : Reach W k a a
  | entered {k a b} (ty name data) : Reach W k a b → Reach W k a (b.enter ty name data 0)
  | exit {k a b} (ty name data) : Reach W k a b → Reach W k a (b.exit ty name data)
  | fanStarted {k a b} (ty len) : Reach W k a b → Reach W k a (b.push (.fanStarted ty len))
  | fanFailed {k a b} (ty) : Reach W k a b → Reach W k a (b.push (.fanFailed ty))
  | wait {k a b} (t) : W b.clock t → Reach W k a b → Reach W k a (b.waitUntil t)
  | atClock {k a b} (s) : Reach W k a b → Reach W k a s → Reach W k a (b.at s.clock)
  | taskCall {k a b} (counts res p m r to tEnd) : W b.clock tEnd → Reach W k a b →
      Reach W k a (b.taskCall counts res p (taskEv m r to) tEnd)
  | taskSilent {k a b} (counts res p tEnd) : W b.clock tEnd → Reach W k a b → Reach W k a (b.taskSilent counts res p tEnd)
  | flags {k a b} (m t f) : Reach W k a b → Reach W k a { b with multiFail := m, tieFail := t, fanFail := f }
  | handover {k a b} (n) : Reach W k a b → Reach W k a (b.handover n)
  | closeKeep {k a b} : Reach W k a b → Reach W k a b.closeKeep
  | request {k a b} (to) : Reach W k a b → Reach W k a (b.request to)
  | visit {k a b} (ty) : Reach W k a b → Reach W k a (b.visit ty)
  | failTok {k a b} : Reach W k a b → Reach W k a b.failTok
  | startBranch {k a b} : Reach W k a b → Reach W k a b.startBranch
  | fan {k a b c} (mc f) : Reach W k a b → Reach W true (b.pushLevel mc) c → Reach W k a (c.join f)
  | launch {a b} (ns) : Reach W true a b → Reach W true a (b.launch ns)
  | endBranch {a b} (f) : Reach W true a b → Reach W true a (b.endBranch f)
  | batch {a b} (n ns) : Reach W true a b → Reach W true a (b.batch n ns)
  | iterStarted {a b} (name i) : Reach W true a b → Reach W true a (b.push (.iterStarted name i))
  | iterFailed {a b} (name i) : Reach W true a b → Reach W true a (b.push (.iterFailed name i))

namespace Reach
variable {W : Rat → Rat → Prop} {k : Bool} {a b s : St}

/-! operations that file their event only under a condition -/
theorem enter (ty name : Str) (data : Json) (r : Nat) (h : Reach W k a b) : Reach W k a (b.enter ty name data r) := by
  cases r with
  | zero => exact h.entered ty name data
  | succ r => exact h

theorem fanFailedIf (state : Json) (h : Reach W k a b) : Reach W k a (b.fanFailedIf state) := by
  fun_cases St.fanFailedIf b state
  · exact h.fanFailed _
  · exact h

theorem iterEnd {a b : St} (name : Str) (i : Nat) (r : Res) (h : Reach W true a b) : Reach W true a (b.iterEnd name i r) := by
  fun_cases St.iterEnd b name i r
  · exact h
  · exact h.iterFailed name i
  · exact h

theorem fanStartedIf (c : Prop) [Decidable c] (ty : Str) (len : Option Nat) (h : Reach W k a b) :
    Reach W k a (if c then b else b.push (.fanStarted ty len)) := by
  split
  · exact h
  · exact h.fanStarted ty len

/-- (`c`: the invocation is cut by the execution's time limit alone, nothing is filed at `tEnd`) -/
theorem invoked {c : Bool} {counts res p m r to tEnd} (h : Reach W k a b) (hw : W b.clock tEnd) :
    Reach W k a (if c then (b.request true).taskSilent counts res p tEnd
      else (b.request to).taskCall counts res p (taskEv m r to) tEnd) := by
  split
  · exact (h.request true).taskSilent counts res p tEnd hw
  · exact (h.request to).taskCall counts res p m r to tEnd hw

theorem waitClock (h : Reach W k a b) (hs : Reach W k a s) : Reach W k a (b.waitUntil s.clock) := by
  unfold St.waitUntil rmax
  split
  · exact h.atClock s hs
  · exact h

theorem atMax {s' : St} (h : Reach W k a b) (hs : Reach W k a s) (hs' : Reach W k a s') :
    Reach W k a (b.at (rmax s.clock s'.clock)) := by
  unfold rmax
  split
  · exact h.atClock s' hs'
  · exact h.atClock s hs

theorem retryAfter (n : Str) (d : Rat) (hw : W b.clock (b.clock + d * 1000)) (h : Reach W k a b) :
    Reach W k a (b.retryAfter n d) := by
  -- the clock is still `b`'s; by rewriting, because unification would unfold the `Rat` arithmetic around it
  rw [← St.handover_clock b n, ← St.closeKeep_clock] at hw
  exact ((h.handover n).closeKeep).wait _ hw

theorem combine {s1 st2 : St} (r : Res) (rest : Except Res (List Json)) (tOk : Rat)
    (h : Reach W k a st2) (h1 : Reach W k a s1) (hOk : Reach W k a (st2.at tOk)) :
    Reach W k a (fanCombine r s1.clock rest st2 tOk).2 := by
  obtain ⟨m, t, c, e, hc⟩ := fanCombine_snd r s1.clock rest st2 tOk
  rw [e]
  rcases hc with rfl | rfl | rfl
  · exact h.flags m t _
  · exact (h.atClock s1 h1).flags m t _
  · exact hOk.flags m t _

end Reach

structure ReachAll (env : Env) (W : Rat → Rat → Prop) (n : Nat) : Prop where
  runFrom : ∀ {k a st}, Reach W k a st → ∀ states name data ctx r, Reach W k a (runFrom env n states name data ctx r st).2
  leave : ∀ {k a st}, Reach W k a st → ∀ states name state raw data ctx r,
    Reach W k a (leave env n states name state raw data ctx r st).2
  handleErr : ∀ {k a st}, Reach W k a st → ∀ states name state data ctx r e msg,
    Reach W k a (handleErr env n states name state data ctx r e msg st).2
  runState : ∀ {k a st}, Reach W k a st → ∀ states name state data ctx r,
    Reach W k a (runState env n states name state data ctx r st).2
  joinAndLeave : ∀ {k a st}, Reach W k a st → ∀ states name state data ctx r res,
    Reach W k a (joinAndLeave env n states name state data ctx r res st).2
  runBranches : ∀ {a st}, Reach W true a st → ∀ bs params ctx, Reach W true a (runBranches env n bs params ctx st).2
  /-- `be`, the end of the batch so far, is an instant the run may wait for -/
  runItems : ∀ {a st}, Reach W true a st → ∀ proc sel input items i mc be ctx bad,
    (∀ b, Reach W true a b → Reach W true a (b.waitUntil be)) →
    Reach W true a (runItems env n proc sel input items i mc be ctx bad st).2

/-- a conditional in a function body is split by this lemma: `split` simplifies the whole goal with the condition, which is
slow on these bodies, and does not get through the chain of state types in `runState` within the limits -/
theorem ite_snd {α β : Type} {P : β → Prop} {c : Prop} [Decidable c] {x y : α × β} (hx : P x.2) (hy : P y.2) :
    P (if c then x else y).2 := by
  split
  · exact hx
  · exact hy

theorem reachAll_succ {env : Env} {W : Rat → Rat → Prop} {n : Nat} (hW : ∀ now t, env.Timely now t → W now t)
    (ih : ReachAll env W n) : ReachAll env W (n + 1) where
  runFrom h states name data ctx r := by
    unfold runFrom
    split
    · exact h
    · exact ih.runState ((h.enter ..).visit _) ..
  leave h states name state raw data ctx r := by
    unfold leave
    apply ite_snd
    · apply ite_snd
      · exact ih.handleErr h ..
      · exact h.exit ..
    · split
      · exact ih.handleErr h ..
      · apply ite_snd
        · exact ih.handleErr h ..
        · exact ih.runFrom ((h.exit ..).handover _) ..
  handleErr h states name state data ctx r e msg := by
    unfold handleErr
    dsimp only
    split
    · split
      · rename_i dl hcut
        exact (((h.handover name).closeKeep).wait dl (hW _ _ (Env.timely_retryCut_some _ hcut))).failTok
      · rename_i hcut
        rw [St.retryAfter_clock] at hcut
        exact ih.runFrom (h.retryAfter name _ (hW _ _ (Env.timely_retryCut_none hcut))) ..
    · split
      · exact h.fanFailedIf state
      · split
        · exact (h.fanFailedIf state).fanFailedIf state
        · apply ite_snd
          · exact (h.fanFailedIf state).fanFailedIf state
          · exact ih.runFrom (((h.fanFailedIf state).exit ..).handover _) ..
    · refine Reach.failTok ?_
      split
      · exact h
      · exact h.fanFailedIf state
  runState {k a st} h states name state data ctx r := by
    have hck : Reach W k a st.closeKeep := h.closeKeep
    -- one conditional per state type
    unfold runState
    dsimp only
    apply ite_snd -- Pass
    · split
      · exact ih.handleErr h ..
      · split
        · exact ih.handleErr h ..
        · split
          · exact ih.handleErr h ..
          · exact ih.leave h ..
    apply ite_snd -- Succeed
    · split
      · exact ih.handleErr h ..
      · split
        · exact ih.handleErr h ..
        · apply ite_snd
          · exact ih.handleErr h ..
          · exact h.exit ..
    apply ite_snd -- Fail
    · exact h
    apply ite_snd -- Wait
    · split
      · exact ih.handleErr h ..
      · split
        · exact ih.handleErr h ..
        · split
          · rename_i dl hcut
            exact ih.handleErr (hck.wait dl (hW _ _ (Env.timely_execCut_some _ hcut))) ..
          · rename_i target _ _ hcut
            have h0 : Reach W k a (st.closeKeep.waitUntil target) := hck.wait target (hW _ _ (Env.timely_execCut_none hcut))
            split
            · exact ih.handleErr h0 ..
            · exact ih.leave h0 ..
    apply ite_snd -- Choice
    · split
      · exact ih.handleErr h ..
      · split
        · exact ih.handleErr h ..
        · split
          · exact ih.handleErr h ..
          · apply ite_snd
            · exact ih.handleErr h ..
            · exact ih.runFrom ((h.exit ..).handover _) ..
    apply ite_snd -- Task
    · split
      · exact h
      · split
        · exact ih.handleErr hck ..
        · split
          · exact ih.handleErr hck ..
          · split
            · exact ih.handleErr hck ..
            · split
              · exact hck
              · rename_i tEnd timedOut harr
                have hw : W st.clock tEnd := hW _ _ (Env.timely_task harr)
                split
                · exact ih.handleErr (hck.invoked hw) ..
                · split
                  · exact ih.handleErr (hck.invoked hw) ..
                  · split
                    · exact ih.handleErr (hck.invoked hw) ..
                    · exact ih.leave (hck.invoked hw) ..
    apply ite_snd -- Parallel
    · split
      · exact ih.handleErr hck ..
      · split
        · exact ih.handleErr hck ..
        · exact ih.joinAndLeave ((hck.fanStarted ..).fan 0 _ (ih.runBranches ((Reach.refl true _).launch _) ..)) ..
    apply ite_snd -- Map
    · split
      · exact ih.handleErr hck ..
      · split
        · exact ih.handleErr hck ..
        · -- the batch so far ends at the instant the Map state is at
          exact ih.joinAndLeave ((hck.fanStartedIf ..).fan _ _ (ih.runItems ((Reach.refl true _).launch _) _ _ _ _ _ _ _ _ _
            (fun b hb => hb.waitClock (s := St.pushLevel _ _) (Reach.refl true _)))) ..
    exact h
  joinAndLeave h states name state data ctx r res := by
    unfold joinAndLeave
    split
    · exact ih.handleErr (h.flags ..) ..
    · exact h
    · split
      · exact ih.handleErr h ..
      · split
        · exact ih.handleErr h ..
        · exact ih.leave h ..
  runBranches {a st} h bs params ctx := by
    cases bs with
    | nil => exact h
    | cons b bs =>
      unfold runBranches
      split
      · rename_i start states _ _
        have g1 := (ih.runFrom h.startBranch states start params ctx 0).endBranch
          (isFailed (runFrom env n states start params ctx 0 st.startBranch).1)
        have g2 := ih.runBranches (g1.atClock st h) bs params ctx
        exact g2.combine _ _ _ g1 (g2.atMax g1 g2)
      · exact h
  runItems {a st} h proc sel input items i mc be ctx bad hbe := by
    cases items with
    | nil => exact hbe _ h
    | cons item items =>
      unfold runItems
      dsimp only
      apply ite_snd
      · exact hbe _ h
      generalize h0 : (if mc ≠ 0 ∧ i ≠ 0 ∧ i % mc = 0 then St.batch _ _ _ else st) = st0
      have g0 : Reach W true a st0 := by
        rw [← h0]
        split
        · exact (hbe _ h).batch _ _
        · exact h
      split
      · exact g0.flags ..
      · split
        · rename_i params _ _ _ start states _ _
          have g1 := ih.runFrom ((g0.iterStarted (ctxStateName ctx) i).startBranch) states start params ctx 0
          generalize runFrom env n states start params ctx 0 _ = p at g1 ⊢
          -- the batch now ends at the later of `be` and the end of this iteration
          have g2 := ih.runItems (((g1.iterEnd (ctxStateName ctx) i p.1).endBranch (isFailed p.1)).atClock _ g0)
            proc sel input items (i + 1) mc (rmax be p.2.clock) ctx (bad || isFailed p.1)
            (fun b hb => St.waitUntil_waitUntil b be _ ▸ (hbe b hb).waitClock g1)
          exact g2.combine _ _ _ g1 (g2.atClock _ g2)
        · exact g0

theorem reachAll (env : Env) (W : Rat → Rat → Prop) (hW : ∀ now t, env.Timely now t → W now t) (n : Nat) :
    ReachAll env W n := by
  induction n with
  | zero => constructor <;> intros <;> assumption
  | succ n ih => exact reachAll_succ hW ih

theorem reach_runCore (env : Env) (fuel : Nat) (asl input ctx : Json) (W : Rat → Rat → Prop)
    (hW : ∀ now t, (env.forMachine asl).Timely now t → W now t) : Reach W false {} (runCore env fuel asl input ctx).2 := by
  unfold runCore
  split
  · exact (reachAll _ W hW fuel).runFrom (Reach.refl _ _) ..
  · exact Reach.refl _ _

theorem reachAll_any (env : Env) (n : Nat) : ReachAll env (fun _ _ => True) n := reachAll env _ (fun _ _ _ => trivial) n
theorem reach_runCore_any (env : Env) (fuel : Nat) (asl input ctx : Json) :
    Reach (fun _ _ => True) false {} (runCore env fuel asl input ctx).2 :=
  reach_runCore env fuel asl input ctx _ (fun _ _ _ => trivial)

end Asl
