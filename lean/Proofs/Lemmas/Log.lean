/-
The history log of the reference semantics (`St.log`, `AslModel/Interp.lean`) only grows, and the
`trace` grows with it: whatever one of the seven mutually recursive functions does to the state, the
new log is the old one with some events put in front — none of them an `Execution…` event —, and the
new trace is the old one with the names of the `entered` events among them put in front (`Grows`).
Every operation a run performs on its state does that (`Reach.grows`, induction over `Reach`).
-/
import AslModel.Interp
import Proofs.Lemmas.Reach
namespace Asl

def Ev.enteredName : Ev → Option Str
  | .entered _ n _ => some n
  | _ => none

def enteredNames (l : List Ev) : List Str := l.filterMap Ev.enteredName

/-- the outcome of a task invocation as the task dispatcher files it -/
def Ev.isReply : Ev → Bool
  | .lambdaSucceeded _ => true
  | .lambdaFailed _ _ => true
  | .lambdaTimedOut => true
  | _ => false

def Ev.isScheduled : Ev → Bool
  | .lambdaScheduled _ _ => true
  | _ => false

/-- in a list of events given most recent first: every reply event is directly preceded in time (followed
in the list) by a `LambdaFunctionScheduled` -/
def bracketed : List Ev → Bool
  | [] => true
  | e :: rest =>
    (if e.isReply then (match rest with | s :: _ => s.isScheduled | [] => false) else true) && bracketed rest

theorem bracketed_append (a b : List Ev) (ha : bracketed a = true) (hb : bracketed b = true) :
    bracketed (a ++ b) = true := by
  induction a with
  | nil => exact hb
  | cons e rest ih =>
    simp only [bracketed, Bool.and_eq_true] at ha
    simp only [List.cons_append, bracketed, Bool.and_eq_true]
    refine ⟨?_, ih ha.2⟩
    cases rest with
    | nil =>
      cases hr : e.isReply
      · simp
      · simp [hr] at ha
    | cons s rest' => exact ha.1

theorem bracketed_spec (l pre post : List Ev) (e : Ev) (h : bracketed l = true) (hl : l = pre ++ e :: post)
    (he : e.isReply = true) : ∃ s post', post = s :: post' ∧ s.isScheduled = true := by
  subst hl
  induction pre with
  | nil =>
    simp only [List.nil_append, bracketed, he, if_true, Bool.and_eq_true] at h
    cases post with
    | nil => simp at h
    | cons s post' => exact ⟨s, post', rfl, h.1⟩
  | cons p ps ih =>
    simp only [List.cons_append, bracketed, Bool.and_eq_true] at h
    exact ih h.2

/-- `st'` is `st` after some more events (most recent first): none of them opens / closes the execution,
every reply event among them has its `LambdaFunctionScheduled` right before it; each has its instant, none
earlier than the clock of `st`; and the clock has not gone back -/
def Grows (st st' : St) : Prop :=
  ∃ evs ts, st'.log = evs ++ st.log ∧ st'.trace = enteredNames evs ++ st.trace ∧ (∀ e ∈ evs, e.isExec = false) ∧
    bracketed evs = true ∧ st'.times = ts ++ st.times ∧ ts.length = evs.length ∧ (∀ t ∈ ts, st.clock ≤ t) ∧
    st.clock ≤ st'.clock

theorem Grows.refl (st : St) : Grows st st := ⟨[], [], rfl, rfl, by simp, rfl, rfl, rfl, by simp, Rat.le_refl⟩

theorem Grows.clock_le {a b : St} (h : Grows a b) : a.clock ≤ b.clock := by
  obtain ⟨_, _, _, _, _, _, _, _, _, hc⟩ := h; exact hc

theorem Grows.log_eq {a b : St} (h : Grows a b) : ∃ evs, b.log = evs ++ a.log := by
  obtain ⟨evs, _, hl, _⟩ := h
  exact ⟨evs, hl⟩

theorem Grows.instants {a b : St} (h : Grows a b) :
    ∃ evs ts, b.log = evs ++ a.log ∧ b.times = ts ++ a.times ∧ ts.length = evs.length ∧ ∀ t ∈ ts, a.clock ≤ t := by
  obtain ⟨evs, ts, hl, _, _, _, hm, hn, hg, _⟩ := h
  exact ⟨evs, ts, hl, hm, hn, hg⟩

theorem Grows.trans {a b c : St} (h1 : Grows a b) (h2 : Grows b c) : Grows a c := by
  obtain ⟨e1, s1, l1, t1, x1, b1, m1, n1, g1, c1⟩ := h1
  obtain ⟨e2, s2, l2, t2, x2, b2, m2, n2, g2, c2⟩ := h2
  refine ⟨e2 ++ e1, s2 ++ s1, ?_, ?_, List.forall_mem_append.mpr ⟨x2, x1⟩, bracketed_append _ _ b2 b1, ?_, ?_,
    List.forall_mem_append.mpr ⟨fun t h => Rat.le_trans c1 (g2 t h), g1⟩, Rat.le_trans c1 c2⟩
  · rw [l2, l1, List.append_assoc]
  · rw [t2, t1, enteredNames, enteredNames, enteredNames, List.filterMap_append, List.append_assoc]
  · rw [m2, m1, List.append_assoc]
  · rw [List.length_append, List.length_append, n1, n2]

theorem Grows.same {a b : St} (h : Grows a b) (c : St) (hl : c.log = b.log) (ht : c.trace = b.trace)
    (hm : c.times = b.times) (hc : a.clock ≤ c.clock) : Grows a c := by
  obtain ⟨e1, s1, l1, t1, x1, b1, m1, n1, g1, _⟩ := h
  exact ⟨e1, s1, hl.trans l1, ht.trans t1, x1, b1, hm.trans m1, n1, g1, hc⟩

theorem Grows.at {a b : St} (h : Grows a b) (t : Rat) (ht : a.clock ≤ t) : Grows a (b.at t) := h.same _ rfl rfl rfl ht

theorem Grows.waitUntil {a b : St} (h : Grows a b) (t : Rat) : Grows a (b.waitUntil t) :=
  h.same _ rfl rfl rfl (Rat.le_trans h.clock_le (le_rmax_left _ _))

theorem grows_file (st c : St) (e : Ev) (hx : e.isExec = false) (hr : e.isReply = false) (hl : c.log = e :: st.log)
    (ht : c.trace = enteredNames [e] ++ st.trace) (hm : c.times = st.clock :: st.times) (hc : c.clock = st.clock) :
    Grows st c :=
  ⟨[e], [st.clock], hl, ht, List.forall_mem_singleton.mpr hx, by simp [bracketed, hr], hm, rfl,
    List.forall_mem_singleton.mpr Rat.le_refl, hc ▸ Rat.le_refl⟩

theorem grows_push (st : St) (e : Ev) (hn : e.enteredName = none) (hx : e.isExec = false) (hr : e.isReply = false) :
    Grows st (st.push e) :=
  grows_file _ _ e hx hr rfl (by simp [enteredNames, St.push, hn]) rfl rfl

theorem grows_at (st : St) (t : Rat) (h : st.clock ≤ t) : Grows st (st.at t) := (Grows.refl st).at t h

theorem taskEv_plain (m : Nat) (r : Json) (b : Bool) :
    (taskEv m r b).enteredName = none ∧ (taskEv m r b).isExec = false ∧ (taskEv m r b).isReply = true := by
  fun_cases taskEv m r b
  · exact ⟨rfl, rfl, rfl⟩
  · fun_cases replyEv m r
    all_goals exact ⟨rfl, rfl, rfl⟩

theorem grows_taskCall (st : St) (counts : List ((Str × Json) × Nat)) (res : Str) (p : Json) (ev : Ev) (tEnd : Rat)
    (hn : ev.enteredName = none) (hx : ev.isExec = false) (hr : ev.isReply = true) :
    Grows st (st.taskCall counts res p ev tEnd) :=
  ⟨[ev, .lambdaScheduled p res], [rmax st.clock tEnd, st.clock], rfl,
   by rw [enteredNames, List.filterMap_cons_none hn]; rfl,
   List.forall_mem_cons.mpr ⟨hx, List.forall_mem_singleton.mpr rfl⟩,
   by rw [bracketed, hr]; rfl,
   rfl, rfl,
   List.forall_mem_cons.mpr ⟨le_rmax_left _ _, List.forall_mem_singleton.mpr Rat.le_refl⟩,
   le_rmax_left _ _⟩

theorem grows_taskSilent (st : St) (counts : List ((Str × Json) × Nat)) (res : Str) (p : Json) (tEnd : Rat) :
    Grows st (st.taskSilent counts res p tEnd) :=
  (grows_push { st with counts := counts } (.lambdaScheduled p res) rfl rfl rfl).waitUntil tEnd

/-- the frame state (`St.fs`) is no part of the history -/
theorem Grows.fr {a b : St} (h : Grows a b) (f : FS → FS) : Grows a (b.fr f) := h.same _ rfl rfl rfl h.clock_le
theorem Grows.request {a b : St} (h : Grows a b) (t : Bool) : Grows a (b.request t) := h.fr _
theorem Grows.launch {a b : St} (h : Grows a b) (ns : List Str) : Grows a (b.launch ns) := h.fr _

theorem Grows.fanFail {a b : St} (h : Grows a b) (x : Bool) : Grows a { b with fanFail := x } :=
  h.same _ rfl rfl rfl h.clock_le
theorem Grows.multiFail {a b : St} (h : Grows a b) : Grows a { b with multiFail := true } :=
  h.same _ rfl rfl rfl h.clock_le

theorem Grows.combine {a st2 : St} (h : Grows a st2) (r : Res) (t1 : Rat) (rest : Except Res (List Json)) (tOk : Rat)
    (h1 : a.clock ≤ t1) (hOk : a.clock ≤ tOk) : Grows a (fanCombine r t1 rest st2 tOk).2 := by
  obtain ⟨m, t, c, e, hc⟩ := fanCombine_snd r t1 rest st2 tOk
  rw [e]
  refine h.same _ rfl rfl rfl ?_
  rcases hc with rfl | rfl | rfl
  · exact h.clock_le
  · exact h1
  · exact hOk

structure GrowsAll (env : Env) (n : Nat) : Prop where
  runFrom : ∀ states name data ctx r st, Grows st (runFrom env n states name data ctx r st).2
  leave : ∀ states name state raw data ctx r st, Grows st (leave env n states name state raw data ctx r st).2
  handleErr : ∀ states name state data ctx r e msg st, Grows st (handleErr env n states name state data ctx r e msg st).2
  runState : ∀ states name state data ctx r st, Grows st (runState env n states name state data ctx r st).2
  joinAndLeave : ∀ states name state data ctx r res st,
    Grows st (joinAndLeave env n states name state data ctx r res st).2
  runBranches : ∀ bs params ctx st, Grows st (runBranches env n bs params ctx st).2
  runItems : ∀ proc sel input items i mc be ctx bad st, Grows st (runItems env n proc sel input items i mc be ctx bad st).2

theorem Reach.grows {W : Rat → Rat → Prop} {k : Bool} {a b : St} (h : Reach W k a b) : Grows a b := by
  induction h with
  | refl => exact Grows.refl _
  | entered ty n d _ ih => exact ih.trans (grows_file _ _ (.entered ty n d) rfl rfl rfl rfl rfl rfl)
  | exit ty n d _ ih => exact ih.trans (grows_file _ _ (.exited ty n d) rfl rfl rfl rfl rfl rfl)
  | fanStarted | fanFailed | iterStarted | iterFailed => rename_i ih; exact ih.trans (grows_push _ _ rfl rfl rfl)
  | wait t _ _ ih => exact ih.waitUntil t
  | atClock s _ _ ih ihs => exact ih.at _ ihs.clock_le
  | taskCall cs res p m r to t _ _ ih =>
    obtain ⟨hn, hx, hr⟩ := taskEv_plain m r to
    exact ih.trans (grows_taskCall _ cs res p _ t hn hx hr)
  | taskSilent cs res p t _ _ ih => exact ih.trans (grows_taskSilent ..)
  | flags m t f _ ih => exact ih.same _ rfl rfl rfl ih.clock_le
  | handover | closeKeep | request | visit | failTok | startBranch | launch | endBranch | batch => rename_i ih; exact ih.fr _
  | fan mc f _ _ ih ihi => exact ((ih.fr _).trans ihi).fr _

theorem growsAll (env : Env) (n : Nat) : GrowsAll env n :=
  have R := reachAll_any env n
  { runFrom := fun _ _ _ _ _ _ => (R.runFrom (Reach.refl false _) ..).grows
    leave := fun _ _ _ _ _ _ _ _ => (R.leave (Reach.refl false _) ..).grows
    handleErr := fun _ _ _ _ _ _ _ _ _ => (R.handleErr (Reach.refl false _) ..).grows
    runState := fun _ _ _ _ _ _ _ => (R.runState (Reach.refl false _) ..).grows
    joinAndLeave := fun _ _ _ _ _ _ _ _ => (R.joinAndLeave (Reach.refl false _) ..).grows
    runBranches := fun _ _ _ _ => (R.runBranches (Reach.refl _ _) ..).grows
    runItems := fun _ _ _ _ _ _ _ _ _ st =>
      (R.runItems (Reach.refl _ st) _ _ _ _ _ _ _ _ _ (fun _ hb => hb.wait _ trivial)).grows }

theorem forall_mem_timesOf {P : Rat → Prop} {r : Res} {st : St} (h0 : P 0) (hts : ∀ t ∈ st.times, P t)
    (hc : P st.clock) : ∀ t ∈ timesOf r st, P t := by
  intro t ht
  simp only [timesOf, List.mem_cons, List.mem_append, List.mem_reverse] at ht
  rcases ht with rfl | h | h
  · exact h0
  · exact hts t h
  · split at h
    · rw [List.mem_singleton.mp h]; exact hc
    · simp at h

theorem enteredNames_reverse (l : List Ev) : enteredNames l.reverse = (enteredNames l).reverse := by
  simp [enteredNames, List.filterMap_reverse]

/-- what `Grows` says of the events added, said of the whole log of a state that started empty -/
structure St.LogOK (st : St) : Prop where
  trace : st.trace = enteredNames st.log
  noExec : ∀ e ∈ st.log, e.isExec = false
  bracketed : bracketed st.log = true
  length : st.times.length = st.log.length
  nonneg : ∀ t ∈ st.times, 0 ≤ t
  clock : 0 ≤ st.clock

theorem runCore_log (env : Env) (fuel : Nat) (asl input ctx : Json) : (runCore env fuel asl input ctx).2.LogOK := by
  obtain ⟨evs, ts, hl, ht, hx, hb, hm, hn, hg, hc⟩ := (reach_runCore_any env fuel asl input ctx).grows
  -- the log and the instants at the start are `[]`
  have hl : (runCore env fuel asl input ctx).2.log = evs := hl.trans (List.append_nil _)
  have hm : (runCore env fuel asl input ctx).2.times = ts := hm.trans (List.append_nil _)
  exact ⟨ht.trans (hl ▸ List.append_nil _), hl ▸ hx, hl ▸ hb, hl ▸ hm ▸ hn, hm ▸ hg, hc⟩

end Asl
