/- For C10: the action name of a request is looked up once (`names_dispatch`); from there on a request is `decideKind` of an
`Action`, and `step_outcome` says how any request ends. -/
import AslModel.Api
namespace Asl.Api

theorem names_dispatch : Action.all.all (fun k => actionOf k.name == some k) = true := by
  decide +kernel

theorem name_of_actionOf (a : Str) (k : Action) (h : actionOf a = some k) : a = k.name := by
  have := List.find?_some h
  exact (of_decide_eq_true this).symm

theorem actionOf_of_name (k : Action) : actionOf k.name = some k :=
  eq_of_beq (List.all_eq_true.mp names_dispatch k (by cases k <;> decide))

theorem name_inj {k k' : Action} (h : k.name = k'.name) : k = k' :=
  Option.some.inj ((actionOf_of_name k).symm.trans ((congrArg actionOf h).trans (actionOf_of_name k')))

theorem decideAction_name (cfg : Cfg) (env : Env) (ms : Lk Machine) (es : Lk Exec) (hs : Lk (List Json))
    (p : Params) (k : Action) :
    decideAction cfg env ms es hs k.name p = decideKind cfg env ms es hs p k := by
  simp only [decideAction, actionOf_of_name]

/-- as a `simp` set (one rule per conjunct) this turns a request for `S "…"` into one for an `Action` -/
theorem action_names :
    S "CreateStateMachine" = Action.create.name ∧ S "UpdateStateMachine" = Action.update.name ∧
    S "DeleteStateMachine" = Action.delete.name ∧ S "DescribeStateMachine" = Action.describe.name ∧
    S "DescribeStateMachineForExecution" = Action.describeForExecution.name ∧
    S "ListStateMachines" = Action.list.name ∧ S "StartExecution" = Action.start.name ∧
    S "StartSyncExecution" = Action.startSync.name ∧ S "ListExecutions" = Action.listExecutions.name ∧
    S "DescribeExecution" = Action.describeExecution.name ∧
    S "GetExecutionHistory" = Action.history.name :=
  ⟨rfl, rfl, rfl, rfl, rfl, rfl, rfl, rfl, rfl, rfl, rfl⟩

def finish (env : Env) (s : State) : Option (Except Str Verdict) → State × Response
  | none => (s, .invalidAction)
  | some (.error e) => (s, .error e)
  | some (.ok v) => (s.apply v.effect, s.answer env v.reply)

-- `finish` is rewritten by these, not unfolded: unfolded around a verdict that is still
-- `decideKind …`, it leaves the kernel a `match` on the handler to reduce, which it does by running it
theorem finish_none (env : Env) (s : State) : finish env s none = (s, .invalidAction) := rfl

theorem finish_error (env : Env) (s : State) (e : Str) :
    finish env s (some (.error e)) = (s, .error e) := rfl

theorem finish_ok (env : Env) (s : State) (v : Verdict) :
    finish env s (some (.ok v)) = (s.apply v.effect, s.answer env v.reply) := rfl

theorem step_name (cfg : Cfg) (env : Env) (s : State) (p : Params) (k : Action) :
    step cfg env s ⟨k.name, some (.obj p)⟩ =
      finish env s (decideKind cfg env (lookup s.machines) (lookup s.executions) (lookup s.histories) p k) := by
  simp only [step, handle, decideAction_name]
  rfl

theorem published_name (cfg : Cfg) (env : Env) (s : State) (p : Params) (k : Action) :
    published cfg env s ⟨k.name, some (.obj p)⟩ =
      match decideKind cfg env (lookup s.machines) (lookup s.executions) (lookup s.histories) p k with
      | some (.ok v) => v.publish
      | _ => none := by
  simp only [published, handle, decideAction_name]
  rfl

theorem Response.isError_of_isRefusal (r : Response) (h : r.isRefusal = true) : r.isError = true := by
  cases r <;> first | rfl | cases h

theorem answer_sync (env : Env) (s : State) :
    (s.answer env .sync = .timedOut ∧ env.syncOutcome = none) ∨
    (∃ d, s.answer env .sync = .ok d ∧ env.syncOutcome = some d) := by
  simp only [State.answer]
  cases env.syncOutcome with
  | none => exact Or.inl ⟨rfl, rfl⟩
  | some d => exact Or.inr ⟨d, rfl, rfl⟩

/-- how a request ends: new state, answer, what goes to the event dispatcher -/
inductive Outcome (env : Env) (s : State) (a : Str) : State × Response → Option Json → Prop
  | invalid : Outcome env s a (s, .invalidAction) none
  | refused (e : Str) : Outcome env s a (s, .error e) none
  | accepted (k : Action) (eff : Effect) (r : Response) (ha : a = k.name) (hr : r.isError = false)
      (h200 : r.status = 200) (hw : eff ≠ .none → k = .create ∨ k = .update ∨ k = .delete) :
      Outcome env s a (s.apply eff, r) none
  | brokerDown (k : Action) (ha : a = k.name) (hk : k = .start ∨ k = .startSync)
      (hf : env.publishFails = true) : Outcome env s a (s, .internalError) none
  | started (j ev : Json) (ha : a = Action.start.name) (hf : env.publishFails = false) :
      Outcome env s a (s, .ok j) (some ev)
  | syncAnswered (d ev : Json) (ha : a = Action.startSync.name) (hf : env.publishFails = false)
      (ho : env.syncOutcome = some d) : Outcome env s a (s, .ok d) (some ev)
  | syncTimedOut (ev : Json) (ha : a = Action.startSync.name) (hf : env.publishFails = false)
      (ho : env.syncOutcome = none) : Outcome env s a (s, .timedOut) (some ev)

theorem accepted_outcome {cfg : Cfg} {env : Env} {s : State} {k : Action} {p : Params} {v : Verdict}
    (h : decideKind cfg env (lookup s.machines) (lookup s.executions) (lookup s.histories) p k = some (.ok v)) :
    Outcome env s k.name (s.apply v.effect, s.answer env v.reply) v.publish := by
  cases k
  -- the two starts: `startVerdict` asks the broker
  case start =>
    simp only [decideKind] at h
    split at h
    all_goals cases h
    simp only [startVerdict]
    cases hf : env.publishFails
    · exact .started _ _ rfl hf
    · exact .brokerDown .start rfl (.inl rfl) hf
  case startSync =>
    simp only [decideKind] at h
    repeat' split at h
    all_goals cases h
    simp only [startVerdict]
    cases hf : env.publishFails
    · simp only [Bool.false_eq_true, if_false]
      rcases answer_sync env s with ⟨ha, ho⟩ | ⟨d, ha, ho⟩
      · rw [ha]
        exact .syncTimedOut _ rfl hf ho
      · rw [ha]
        exact .syncAnswered d _ rfl hf ho
    · exact .brokerDown .startSync rfl (.inr rfl) hf
  -- every other handler answers itself and publishes nothing
  all_goals
    simp only [decideKind] at h
    repeat' split at h
    all_goals cases h
    all_goals exact .accepted _ _ _ rfl rfl rfl (by simp [Verdict.read])

theorem step_outcome (cfg : Cfg) (env : Env) (s : State) (c : Call) :
    Outcome env s c.action (step cfg env s c) (published cfg env s c) := by
  obtain ⟨a, ps⟩ := c
  cases ps with
  | none => exact .refused _
  | some j =>
    cases j with
    | obj p =>
      cases hk : actionOf a with
      | none =>
        simp only [step, published, handle, decideAction, hk]
        exact .invalid
      | some k =>
        obtain rfl := name_of_actionOf a k hk
        rw [step_name, published_name]
        cases hd : decideKind cfg env (lookup s.machines) (lookup s.executions) (lookup s.histories) p k with
        | none => exact .invalid
        | some r =>
          cases r with
          | error e => exact .refused e
          | ok v => exact accepted_outcome hd
    | _ => exact .refused _

def Action.isRead : Action → Bool
  | .describe | .describeForExecution | .list | .listExecutions | .describeExecution | .history => true
  | _ => false

theorem step_read (cfg : Cfg) (env : Env) (s : State) (ps : Option Json) (k : Action)
    (hk : k.isRead = true) :
    (step cfg env s ⟨k.name, ps⟩).1 = s ∧ published cfg env s ⟨k.name, ps⟩ = none := by
  have ho := step_outcome cfg env s ⟨k.name, ps⟩
  generalize step cfg env s ⟨k.name, ps⟩ = st, published cfg env s ⟨k.name, ps⟩ = pub at ho ⊢
  cases ho with
  | invalid | refused => exact ⟨rfl, rfl⟩
  | accepted k' eff r ha _ _ hw =>
    obtain rfl := name_inj ha
    refine ⟨?_, rfl⟩
    cases eff with
    | none => rfl
    | _ => rcases hw (by simp) with rfl | rfl | rfl <;> cases hk
  | brokerDown k' ha hks => obtain rfl := name_inj ha; rcases hks with rfl | rfl <;> cases hk
  | started _ _ ha | syncAnswered _ _ ha | syncTimedOut _ ha => obtain rfl := name_inj ha; cases hk

/-! Each validator is a chain of checks ending in one `.ok`: `fun_cases` gives a case per branch, `rintro ⟨⟩` on the answer
closes those that answer otherwise. -/

theorem arnArg_ok_inv (valid : Str → Bool) (x : Option Json) (a : Str)
    (h : arnArg valid x = .ok a) : x = some (.str a) ∧ valid a = true := by
  revert h
  fun_cases arnArg valid x <;> rintro ⟨⟩
  exact ⟨rfl, ‹_›⟩

-- else `rintro ⟨⟩` evaluates the error types `S "…"` of the branches, looking for a constructor
attribute [local irreducible] S

theorem arnArg_error {valid : Str → Bool} {x : Option Json} {e : Str} (h : arnArg valid x = .error e) :
    e = S "MissingRequiredParameter" ∨ e = S "InvalidArn" := by
  revert h
  fun_cases arnArg valid x <;> rintro ⟨⟩ <;> simp

theorem arnArg_missing {valid : Str → Bool} {x : Option Json} (h : truthyArg x = false) :
    arnArg valid x = .error (S "MissingRequiredParameter") := by
  simp [arnArg, h]

theorem arnArg_of_valid {kind a : Str} (h : validResArn kind a = true) :
    arnArg (validResArn kind) (some (.str a)) = .ok a := by
  cases a with
  | nil => cases h
  | cons c cs => simp [arnArg, truthyArg, Json.truthy, h]

theorem startArgs_arn {env : Env} {p : Params} {arn name : Str} {input : Json}
    (h : startArgs env p = .ok (arn, name, input)) :
    arnArg validSmArn (arg p "stateMachineArn") = .ok arn := by
  revert h
  fun_cases startArgs env p <;> rintro ⟨⟩
  assumption

theorem startArgs_error {env : Env} {p : Params} {e : Str} (h : startArgs env p = .error e) :
    e ∈ [S "MissingRequiredParameter", S "InvalidArn", S "InvalidName", S "InvalidExecutionInput"] := by
  revert h
  fun_cases startArgs env p <;> rintro ⟨⟩
  · rcases arnArg_error ‹_› with r | r <;> simp [r]
  all_goals simp

theorem validateStart_ok {env : Env} {ms : Lk Machine} {p : Params} {x : Str × Str × Json × Str × Machine}
    (h : validateStart env ms p = .ok x) :
    arnArg validSmArn (arg p "stateMachineArn") = .ok x.2.2.2.1 ∧ ms x.2.2.2.1 = some x.2.2.2.2 := by
  revert h
  fun_cases validateStart env ms p <;> rintro ⟨⟩
  exact ⟨startArgs_arn ‹_›, ‹_›⟩

theorem validateStart_unknown {env : Env} {ms : Lk Machine} {p : Params} {arn name : Str} {input : Json}
    (hs : startArgs env p = .ok (arn, name, input)) (hl : ms arn = none) :
    validateStart env ms p = .error (S "StateMachineDoesNotExist") := by
  unfold validateStart
  rw [hs]
  simp [hl]

theorem validateStart_error {env : Env} {ms : Lk Machine} {p : Params} {e : Str}
    (h : validateStart env ms p = .error e) :
    e ∈ [S "MissingRequiredParameter", S "InvalidArn", S "InvalidName", S "InvalidExecutionInput",
         S "StateMachineDoesNotExist"] := by
  revert h
  fun_cases validateStart env ms p <;> rintro ⟨⟩
  · exact List.mem_append_left [_] (startArgs_error ‹_›)
  all_goals simp

theorem validateStartSync_ok {env : Env} {ms : Lk Machine} {p : Params} {x : Str × Str × Json × Str × Machine}
    (h : validateStartSync env ms p = .ok x) :
    validateStart env ms p = .ok x ∧ x.2.2.2.2.type = S "EXPRESS" := by
  revert h
  fun_cases validateStartSync env ms p <;> rintro ⟨⟩
  exact ⟨‹_›, ‹_›⟩

theorem validateStartSync_standard {env : Env} {ms : Lk Machine} {p : Params} {x : Str × Str × Json × Str × Machine}
    (hv : validateStart env ms p = .ok x) (ht : x.2.2.2.2.type ≠ S "EXPRESS") :
    validateStartSync env ms p = .error (S "StateMachineTypeNotSupported") := by
  unfold validateStartSync
  rw [hv]
  simp [ht]

theorem validateStartSync_error {env : Env} {ms : Lk Machine} {p : Params} {e : Str}
    (h : validateStartSync env ms p = .error e) :
    e ∈ [S "MissingRequiredParameter", S "InvalidArn", S "InvalidName", S "InvalidExecutionInput",
         S "StateMachineDoesNotExist", S "StateMachineTypeNotSupported"] := by
  revert h
  fun_cases validateStartSync env ms p <;> rintro ⟨⟩
  · exact List.mem_append_left [_] (validateStart_error ‹_›)
  · simp

theorem decodeDefinition_ok {cfg : Cfg} {env : Env} {a : Option Json} {d : Json}
    (h : decodeDefinition cfg env (a.getD (.str [])) = .ok d) :
    ∃ t, a = some (.str t) ∧ parseJson t = some d ∧
      (cfg.logging && cfg.validateAsl && (env.lintBad || hasDuplicateNames t)) = false := by
  generalize hj : a.getD (.str []) = j at h
  revert h
  fun_cases decodeDefinition cfg env j <;> rintro ⟨⟩
  rename_i t hlen hl hp
  refine ⟨t, ?_, hp, by simpa using hl⟩
  -- the default of a missing argument is the empty text, which the length check has refused
  cases a with
  | none => cases hj; simp at hlen
  | some j => exact congrArg some hj

theorem createKey_ok {cfg : Cfg} {p : Params} {arn name role ty : Str}
    (h : createKey cfg p = .ok (arn, name, role, ty)) :
    arg p "name" = some (.str name) ∧ validName name = true ∧
    arg p "roleArn" = some (.str role) ∧ validRoleArn role = true ∧
    (ty = S "STANDARD" ∨ ty = S "EXPRESS") ∧
    (cfg.quirks.createUncheckedArn = false → validSmArn arn = true) ∧
    ∃ account, roleAccount role = some account ∧ arn = smArnOf cfg.region account name := by
  revert h
  fun_cases createKey cfg p <;> rintro ⟨⟩
  simp only [Bool.not_eq_eq_eq_not, Bool.not_true, Bool.not_eq_false, Bool.and_eq_true, not_and, Bool.not_or,
    decide_eq_false_iff_not, Decidable.not_not] at *
  exact ⟨‹_›, ‹_›, ‹_›, ‹_›, Decidable.or_iff_not_imp_left.mpr ‹_›, ‹_›, _, ‹_›, rfl⟩

theorem validateCreate_ok {cfg : Cfg} {env : Env} {ms : Lk Machine} {p : Params} {arn : Str} {m : Machine}
    (h : validateCreate cfg env ms p = .ok (arn, m)) :
    createKey cfg p = .ok (arn, m.name, m.roleArn, m.type) ∧
    ms arn = none ∧
    decodeDefinition cfg env ((arg p "definition").getD (.str [])) = .ok m.definition ∧
    m.definition.truthy = true ∧
    createLogging cfg p = .ok m.logging ∧
    m.creationDate = env.now ∧ m.updateDate = env.now := by
  revert h
  fun_cases validateCreate cfg env ms p <;> rintro ⟨⟩
  simp only [Bool.not_eq_eq_eq_not, Bool.not_true, Bool.not_eq_false, Bool.not_eq_true, Option.isSome_eq_false_iff,
    Option.isNone_iff_eq_none, and_self, and_true] at *
  exact ⟨‹_›, ‹_›, ‹_›, ‹_›, ‹_›⟩

theorem validateCreate_dup {cfg : Cfg} {env : Env} {ms : Lk Machine} {p : Params} {arn name role ty : Str}
    (hk : createKey cfg p = .ok (arn, name, role, ty)) (hl : (ms arn).isSome = true) :
    validateCreate cfg env ms p = .error (S "StateMachineAlreadyExists") := by
  unfold validateCreate
  rw [hk]
  simp [hl]

theorem updRole_ok {p : Params} {r : Option Str} (h : updRole p = .ok r) :
    (truthyArg (arg p "roleArn") = false → r = none) ∧
    (truthyArg (arg p "roleArn") = true →
      ∃ x, r = some x ∧ arg p "roleArn" = some (.str x) ∧ validRoleArn x = true) := by
  revert h
  fun_cases updRole p <;> rintro ⟨⟩ <;> simp_all

theorem updDefinition_ok {cfg : Cfg} {env : Env} {p : Params} {d : Option Json}
    (h : updDefinition cfg env p = .ok d) :
    (truthyArg (arg p "definition") = false → d = none) ∧
    (truthyArg (arg p "definition") = true →
      ∃ t x, d = some x ∧ arg p "definition" = some (.str t) ∧ parseJson t = some x) := by
  revert h
  fun_cases updDefinition cfg env p <;> rintro ⟨⟩
  · simp_all
  · obtain ⟨t, ht, hp, _⟩ := decodeDefinition_ok ‹_›
    simp_all

theorem updLogging_ok {cfg : Cfg} {p : Params} {l : Option Json} (h : updLogging cfg p = .ok l) :
    ((cfg.logging && truthyArg (arg p "loggingConfiguration")) = false → l = none) ∧
    ((cfg.logging && truthyArg (arg p "loggingConfiguration")) = true →
      ∃ x, l = some x ∧ checkLogging ((arg p "loggingConfiguration").getD (.obj [])) = .ok x) := by
  revert h
  fun_cases updLogging cfg p <;> rintro ⟨⟩
  · exact ⟨fun _ => rfl, fun ht => by simp_all⟩
  · exact ⟨fun hf => by simp_all, fun _ => ⟨_, rfl, ‹_›⟩⟩

theorem validateUpdate_ok {cfg : Cfg} {env : Env} {ms : Lk Machine} {p : Params} {arn : Str} {m' : Machine}
    (h : validateUpdate cfg env ms p = .ok (arn, m')) :
    ∃ m role d lc, arnArg validSmArn (arg p "stateMachineArn") = .ok arn ∧
      ms arn = some m ∧ updRole p = .ok role ∧ updDefinition cfg env p = .ok d ∧
      updLogging cfg p = .ok lc ∧
      m' = { m with roleArn := role.getD m.roleArn, definition := d.getD m.definition,
                    logging := (match lc with | some l => some l | none => m.logging),
                    updateDate := env.now } := by
  revert h
  fun_cases validateUpdate cfg env ms p <;> rintro ⟨⟩
  rename_i m role hr d hd _ lc hlc ha hm
  exact ⟨m, role, d, lc, ha, hm, hr, hd, hlc, rfl⟩

theorem validateUpdate_unknown {cfg : Cfg} {env : Env} {ms : Lk Machine} {p : Params} {arn : Str}
    (ha : arnArg validSmArn (arg p "stateMachineArn") = .ok arn) (hl : ms arn = none) :
    validateUpdate cfg env ms p = .error (S "StateMachineDoesNotExist") := by
  unfold validateUpdate
  rw [ha]
  simp [hl]

theorem execMatches_iff (arn : Str) (f : Option Json) (e : Exec) :
    execMatches arn f e = true ↔ e.stateMachineArn = arn ∧ ∀ j, f = some j → j = .str e.status := by
  cases f <;> simp [execMatches]

theorem describe_members (arn : Str) (m : Machine) :
    ∃ kvs, m.describe arn = .obj kvs ∧
      objGet kvs (S "definition") = some (.str (render m.definition)) ∧
      objGet kvs (S "name") = some (.str m.name) ∧
      objGet kvs (S "roleArn") = some (.str m.roleArn) ∧
      objGet kvs (S "stateMachineArn") = some (.str arn) ∧
      objGet kvs (S "creationDate") = some (.num m.creationDate) := by
  refine ⟨_, rfl, ?_⟩
  -- `rw`, not evaluation: `String.toList` on a literal is quadratic to evaluate
  simp only [S, jstr]
  repeat rw [String.toList_ofList]
  cases m.logging <;> exact ⟨rfl, rfl, rfl, rfl, rfl⟩

theorem create_accepted {cfg : Cfg} {env : Env} {s : State} {p : Params} {body : Json}
    (h : (step cfg env s ⟨Action.create.name, some (.obj p)⟩).2 = .ok body) :
    ∃ arn m, validateCreate cfg env (lookup s.machines) p = .ok (arn, m) ∧
      step cfg env s ⟨Action.create.name, some (.obj p)⟩ =
        ({ s with machines := insert s.machines arn m },
         .ok (.obj [(S "creationDate", .num m.creationDate), (S "stateMachineArn", .str arn)])) := by
  simp only [step_name, decideKind] at h ⊢
  cases hv : validateCreate cfg env (lookup s.machines) p with
  | error e => simp [hv, finish_error] at h
  | ok x => exact ⟨x.1, x.2, rfl, rfl⟩

theorem update_accepted {cfg : Cfg} {env : Env} {s : State} {p : Params} {body : Json}
    (h : (step cfg env s ⟨Action.update.name, some (.obj p)⟩).2 = .ok body) :
    ∃ arn m, validateUpdate cfg env (lookup s.machines) p = .ok (arn, m) ∧
      step cfg env s ⟨Action.update.name, some (.obj p)⟩ =
        ({ s with machines := insert s.machines arn m }, .ok (.obj [(S "updateDate", .num m.updateDate)])) := by
  simp only [step_name, decideKind] at h ⊢
  cases hv : validateUpdate cfg env (lookup s.machines) p with
  | error e => simp [hv, finish_error] at h
  | ok x => exact ⟨x.1, x.2, rfl, rfl⟩

theorem delete_accepted {cfg : Cfg} {env : Env} {s : State} {p : Params}
    (h : (step cfg env s ⟨Action.delete.name, some (.obj p)⟩).2 = .okEmpty) :
    ∃ arn m, arnArg validSmArn (arg p "stateMachineArn") = .ok arn ∧ lookup s.machines arn = some m ∧
      step cfg env s ⟨Action.delete.name, some (.obj p)⟩ = ({ s with machines := erase s.machines arn }, .okEmpty) := by
  cases ha : arnArg validSmArn (arg p "stateMachineArn") with
  | error e => simp [step_name, decideKind, ha, finish_error] at h
  | ok arn =>
    cases hl : lookup s.machines arn with
    | none => simp [step_name, decideKind, ha, hl, finish_error] at h
    | some m =>
      refine ⟨arn, m, rfl, hl, ?_⟩
      simp only [step_name, decideKind, ha, hl, finish_ok, State.apply, State.answer]

theorem step_describe_ok {cfg : Cfg} {env : Env} {s : State} {p : Params} {arn : Str} {m : Machine}
    (ha : arnArg validSmArn (arg p "stateMachineArn") = .ok arn) (hl : lookup s.machines arn = some m) :
    step cfg env s ⟨Action.describe.name, some (.obj p)⟩ = (s, .ok (m.describe arn)) := by
  simp only [step_name, decideKind, ha, hl, finish_ok]
  rfl

end Asl.Api
