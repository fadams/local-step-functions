/-
The error-handling policy by itself (AslModel/Retry.lean): a scan passes over the entries that do not match, and
what each decision of `decideError` says about the two scans.
-/
import AslModel.Retry
namespace Asl

theorem scanRetriers_append {pre : List Retrier} {e : Str} (h : ∀ p ∈ pre, errMatches p.errorEquals e = false)
    (l : List Retrier) (n : Nat) : scanRetriers (pre ++ l) e n = scanRetriers l e n := by
  induction pre with
  | nil => rfl
  | cons p ps ih =>
    rw [List.cons_append, scanRetriers, h p (by simp), if_neg Bool.false_ne_true]
    exact ih (fun q hq => h q (by simp [hq]))

theorem scanCatchers_append {pre : List Catcher} {e : Str} (h : ∀ p ∈ pre, errMatches p.errorEquals e = false)
    (l : List Catcher) : scanCatchers (pre ++ l) e = scanCatchers l e := by
  induction pre with
  | nil => rfl
  | cons p ps ih =>
    rw [List.cons_append, scanCatchers, h p (by simp), if_neg Bool.false_ne_true]
    exact ih (fun q hq => h q (by simp [hq]))

variable {rs : List Retrier} {cs : List Catcher} {e : Str} {n : Nat}

theorem decideError_unrecoverable (h : unrecoverable e = true) : decideError rs cs e n = .uncaught := by
  rw [decideError, if_pos h]

theorem decideError_retry {d : Rat} {k : Nat} (h : decideError rs cs e n = .retry d k) :
    scanRetriers rs e n = .retry d k := by
  unfold decideError at h
  split at h
  · cases h
  · split at h
    · rename_i hs
      cases h
      exact hs
    · split at h <;> cases h

theorem decideError_caught_iff {c : Catcher} :
    decideError rs cs e n = .caught c ↔
      unrecoverable e = false ∧ (∀ d k, scanRetriers rs e n ≠ .retry d k) ∧ scanCatchers cs e = some c := by
  unfold decideError
  cases hu : unrecoverable e
  · simp only [Bool.false_eq_true, if_false]
    cases hs : scanRetriers rs e n with
    | retry d k => simp
    | noMatch | exhausted =>
      simp only
      cases hc : scanCatchers cs e <;> simp
  · simp

end Asl
