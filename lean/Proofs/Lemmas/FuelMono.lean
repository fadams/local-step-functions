/-
Fuel monotonicity of the big-step reference semantics (`AslModel/Interp.lean`): the seven mutually
recursive functions are structurally recursive on a `fuel` argument; a run that ends with anything
other than fuel exhaustion gives exactly the same result *and state* with any larger fuel
(`runFrom_mono` … `runItems_mono`), hence the outcome of `run` is independent of the fuel
(`run_fuel_independent`).

This rests on the arm `| _, .error .fuel => (.error .fuel, st2)` of `fanCombine`: when the later branches
have run out of fuel so has the fan-out, whatever this branch did (`fanCombine_ne_fuel`).  Without that arm
the last one, `| other, _ => (.error other, …)`, would report the failure of a failed (or unsupported) branch
and hide a sibling that ran out of fuel, and the statement would be false:
`Parallel [b1 = {F: Fail E1}, b2 = {P: Pass → G: Fail E1}]` with `End` would be FAILED from fuel 5 on, with a
trace and a `multiFail` that still change up to fuel 9 (with a `b2` that loops for ever they never settle).  As it is,
these runs report FUEL up to fuel 8 (the `example`s at the end).
-/
import AslModel.Interp
import AslModel.Lite
import Proofs.Lemmas.RunEqs
namespace Asl

section zero
variable (env : Env) (states : Json) (name : Str) (state raw data ctx : Json) (retries : Nat) (e msg : Str)
  (r : Except Res (List Json)) (bs : List Json) (params proc : Json) (sel : Option Json) (input : Json) (items : List Json)
  (i mc : Nat) (be : Rat) (bad : Bool) (st : St)

theorem runFrom_zero : runFrom env 0 states name data ctx retries st = (.fuel, st) := rfl
theorem leave_zero : leave env 0 states name state raw data ctx retries st = (.fuel, st) := rfl
theorem handleErr_zero : handleErr env 0 states name state data ctx retries e msg st = (.fuel, st) := rfl
theorem runState_zero : runState env 0 states name state data ctx retries st = (.fuel, st) := rfl
theorem joinAndLeave_zero : joinAndLeave env 0 states name state data ctx retries r st = (.fuel, st) := rfl
theorem runBranches_zero : runBranches env 0 bs params ctx st = (.error .fuel, st) := rfl
theorem runItems_zero : runItems env 0 proc sel input items i mc be ctx bad st = (.error .fuel, st) := rfl
end zero

theorem fanCombine_ne_fuel {r : Res} {t : Rat} {rest : Except Res (List Json)} {st2 : St} {tOk : Rat}
    (h : (fanCombine r t rest st2 tOk).1 ≠ .error .fuel) : r ≠ .fuel ∧ rest ≠ .error .fuel := by
  refine ⟨fun e => h ?_, fun e => h ?_⟩
  · subst e
    rcases rest with a | vs
    · cases a <;> rfl
    · rfl
  · subst e
    cases r <;> rfl

theorem joinAndLeave_fuel (env : Env) (k : Nat) (states : Json) (name : Str) (state data ctx : Json)
    (retries : Nat) (st : St) :
    joinAndLeave env k states name state data ctx retries (.error .fuel) st = (.fuel, st) := by
  cases k <;> rfl

structure StepMono (env : Env) (n : Nat) : Prop where
  runFrom : ∀ states name data ctx retries st,
    (runFrom env n states name data ctx retries st).1 ≠ Res.fuel →
    runFrom env (n + 1) states name data ctx retries st = runFrom env n states name data ctx retries st
  leave : ∀ states name state raw data ctx retries st,
    (leave env n states name state raw data ctx retries st).1 ≠ Res.fuel →
    leave env (n + 1) states name state raw data ctx retries st =
      leave env n states name state raw data ctx retries st
  handleErr : ∀ states name state data ctx retries e msg st,
    (handleErr env n states name state data ctx retries e msg st).1 ≠ Res.fuel →
    handleErr env (n + 1) states name state data ctx retries e msg st =
      handleErr env n states name state data ctx retries e msg st
  runState : ∀ states name state data ctx retries st,
    (runState env n states name state data ctx retries st).1 ≠ Res.fuel →
    runState env (n + 1) states name state data ctx retries st =
      runState env n states name state data ctx retries st
  joinAndLeave : ∀ states name state data ctx retries r st,
    (joinAndLeave env n states name state data ctx retries r st).1 ≠ Res.fuel →
    joinAndLeave env (n + 1) states name state data ctx retries r st =
      joinAndLeave env n states name state data ctx retries r st
  runBranches : ∀ bs params ctx st,
    (runBranches env n bs params ctx st).1 ≠ Except.error Res.fuel →
    runBranches env (n + 1) bs params ctx st = runBranches env n bs params ctx st
  runItems : ∀ proc sel input items i mc be ctx bad st,
    (runItems env n proc sel input items i mc be ctx bad st).1 ≠ Except.error Res.fuel →
    runItems env (n + 1) proc sel input items i mc be ctx bad st = runItems env n proc sel input items i mc be ctx bad st

/-! Each function at fuel `n + 1` calls the others at fuel `n`, and which call it ends with does not depend on the
fuel: both sides take the same path through the body, and at its end stands a result that no fuel enters, or a call
at fuel `n` (with one more unit on the left) that the induction hypothesis `ih` covers. -/

/-- splits a conditional of a function body, for the reason given at `ite_snd` (`Reach.lean`) -/
theorem ite_step {α β : Type} {bad : α} {c : Prop} [Decidable c] {a a' b b' : α × β}
    (ht : a.1 ≠ bad → a' = a) (he : b.1 ≠ bad → b' = b) :
    (if c then a else b).1 ≠ bad → (if c then a' else b') = if c then a else b := by
  split
  · exact ht
  · exact he

/-- a Parallel / Map state: the fan-out gave `a` (`b` with one more unit of fuel), then `joinAndLeave` -/
theorem joinAfter_step {env : Env} {n : Nat} (ih : StepMono env n) (states : Json) (name : Str) (state data ctx : Json)
    (retries : Nat) (a b : Except Res (List Json) × St) (hab : a.1 ≠ Except.error Res.fuel → b = a) :
    (joinAndLeave env n states name state data ctx retries a.1 (a.2.join (isErr a.1))).1 ≠ Res.fuel →
    joinAndLeave env (n + 1) states name state data ctx retries b.1 (b.2.join (isErr b.1)) =
      joinAndLeave env n states name state data ctx retries a.1 (a.2.join (isErr a.1)) := by
  intro h
  have ha : a.1 ≠ Except.error Res.fuel := fun e => h (by rw [e, joinAndLeave_fuel])
  rw [hab ha]
  exact ih.joinAndLeave _ _ _ _ _ _ _ _ h

theorem stepMono_succ {env : Env} {n : Nat} (ih : StepMono env n) : StepMono env (n + 1) where
  runFrom states name data ctx retries st := by
    unfold runFrom
    split
    · exact fun _ => rfl
    · apply ih.runState
  leave states name state raw data ctx retries st := by
    unfold leave
    apply ite_step
    · apply ite_step
      · apply ih.handleErr
      · exact fun _ => rfl
    · split
      · apply ih.handleErr
      · apply ite_step
        · apply ih.handleErr
        · apply ih.runFrom
  handleErr states name state data ctx retries e msg st := by
    unfold handleErr
    dsimp only
    split
    · split
      · exact fun _ => rfl
      · apply ih.runFrom
    · split
      · exact fun _ => rfl
      · split
        · exact fun _ => rfl
        · apply ite_step
          · exact fun _ => rfl
          · apply ih.runFrom
    · exact fun _ => rfl
  runState states name state data ctx retries st := by
    unfold runState
    dsimp only
    -- one conditional per state type
    apply ite_step -- Pass
    · split
      · apply ih.handleErr
      · split
        · apply ih.handleErr
        · split
          · apply ih.handleErr
          · apply ih.leave
    apply ite_step -- Succeed
    · split
      · apply ih.handleErr
      · split
        · apply ih.handleErr
        · apply ite_step
          · apply ih.handleErr
          · exact fun _ => rfl
    apply ite_step -- Fail
    · exact fun _ => rfl
    apply ite_step -- Wait
    · split
      · apply ih.handleErr
      · split
        · apply ih.handleErr
        · split
          · apply ih.handleErr
          · split
            · apply ih.handleErr
            · apply ih.leave
    apply ite_step -- Choice
    · split
      · apply ih.handleErr
      · split
        · apply ih.handleErr
        · split
          · apply ih.handleErr
          · apply ite_step
            · apply ih.handleErr
            · apply ih.runFrom
    apply ite_step -- Task
    · split
      · exact fun _ => rfl
      · split
        · apply ih.handleErr
        · split
          · apply ih.handleErr
          · split
            · apply ih.handleErr
            · split
              · exact fun _ => rfl
              · split
                · apply ih.handleErr
                · split
                  · apply ih.handleErr
                  · split
                    · apply ih.handleErr
                    · apply ih.leave
    apply ite_step -- Parallel
    · split
      · apply ih.handleErr
      · split
        · apply ih.handleErr
        · apply joinAfter_step ih
          apply ih.runBranches
    apply ite_step -- Map
    · split
      · apply ih.handleErr
      · split
        · apply ih.handleErr
        · apply joinAfter_step ih
          apply ih.runItems
    · exact fun _ => rfl
  joinAndLeave states name state data ctx retries r st := by
    unfold joinAndLeave
    split
    · apply ih.handleErr
    · exact fun _ => rfl
    · split
      · apply ih.handleErr
      · split
        · apply ih.handleErr
        · apply ih.leave
  runBranches bs params ctx st := by
    cases bs with
    | nil => exact fun _ => rfl
    | cons b bs =>
      unfold runBranches
      dsimp only
      split
      · intro h
        obtain ⟨h1, h2⟩ := fanCombine_ne_fuel h
        rw [ih.runFrom _ _ _ _ _ _ h1, ih.runBranches _ _ _ _ h2]
      · exact fun _ => rfl
  runItems proc sel input items i mc be ctx bad st := by
    cases items with
    | nil => exact fun _ => rfl
    | cons item items =>
      unfold runItems
      dsimp only
      apply ite_step
      · exact fun _ => rfl
      split
      · exact fun _ => rfl
      · split
        · intro h
          obtain ⟨h1, h2⟩ := fanCombine_ne_fuel h
          rw [ih.runFrom _ _ _ _ _ _ h1, ih.runItems _ _ _ _ _ _ _ _ _ _ h2]
        · exact fun _ => rfl

theorem stepMono (env : Env) (n : Nat) : StepMono env n := by
  induction n with
  | zero =>
    -- at fuel 0 each function reports fuel exhaustion (`runFrom_zero` … `runItems_zero`), by `rfl`
    constructor <;> intros <;> exact absurd rfl ‹_›
  | succ n ih => exact stepMono_succ ih

theorem mono_of_step {α β : Type} {bad : α} {f : Nat → α × β} (hstep : ∀ k, (f k).1 ≠ bad → f (k + 1) = f k)
    {n m : Nat} (h : n ≤ m) (hn : (f n).1 ≠ bad) : f m = f n := by
  induction h with
  | refl => rfl
  | step _ e => rw [hstep _ (e ▸ hn), e]

theorem runFrom_mono (env : Env) (n m : Nat) (h : n ≤ m) (states : Json) (name : Str) (data ctx : Json)
    (retries : Nat) (st : St) :
    (runFrom env n states name data ctx retries st).1 ≠ Res.fuel →
    runFrom env m states name data ctx retries st = runFrom env n states name data ctx retries st :=
  mono_of_step (fun k => (stepMono env k).runFrom states name data ctx retries st) h

theorem leave_mono (env : Env) (n m : Nat) (h : n ≤ m) (states : Json) (name : Str) (state raw data ctx : Json)
    (retries : Nat) (st : St) :
    (leave env n states name state raw data ctx retries st).1 ≠ Res.fuel →
    leave env m states name state raw data ctx retries st =
      leave env n states name state raw data ctx retries st :=
  mono_of_step (fun k => (stepMono env k).leave states name state raw data ctx retries st) h

theorem handleErr_mono (env : Env) (n m : Nat) (h : n ≤ m) (states : Json) (name : Str) (state data ctx : Json)
    (retries : Nat) (e msg : Str) (st : St) :
    (handleErr env n states name state data ctx retries e msg st).1 ≠ Res.fuel →
    handleErr env m states name state data ctx retries e msg st =
      handleErr env n states name state data ctx retries e msg st :=
  mono_of_step (fun k => (stepMono env k).handleErr states name state data ctx retries e msg st) h

theorem runState_mono (env : Env) (n m : Nat) (h : n ≤ m) (states : Json) (name : Str) (state data ctx : Json)
    (retries : Nat) (st : St) :
    (runState env n states name state data ctx retries st).1 ≠ Res.fuel →
    runState env m states name state data ctx retries st =
      runState env n states name state data ctx retries st :=
  mono_of_step (fun k => (stepMono env k).runState states name state data ctx retries st) h

theorem joinAndLeave_mono (env : Env) (n m : Nat) (h : n ≤ m) (states : Json) (name : Str)
    (state data ctx : Json) (retries : Nat) (r : Except Res (List Json)) (st : St) :
    (joinAndLeave env n states name state data ctx retries r st).1 ≠ Res.fuel →
    joinAndLeave env m states name state data ctx retries r st =
      joinAndLeave env n states name state data ctx retries r st :=
  mono_of_step (fun k => (stepMono env k).joinAndLeave states name state data ctx retries r st) h

theorem runBranches_mono (env : Env) (n m : Nat) (h : n ≤ m) (bs : List Json) (params ctx : Json) (st : St) :
    (runBranches env n bs params ctx st).1 ≠ Except.error Res.fuel →
    runBranches env m bs params ctx st = runBranches env n bs params ctx st :=
  mono_of_step (fun k => (stepMono env k).runBranches bs params ctx st) h

theorem runItems_mono (env : Env) (n m : Nat) (h : n ≤ m) (proc : Json) (sel : Option Json) (input : Json)
    (items : List Json) (i mc : Nat) (be : Rat) (ctx : Json) (bad : Bool) (st : St) :
    (runItems env n proc sel input items i mc be ctx bad st).1 ≠ Except.error Res.fuel →
    runItems env m proc sel input items i mc be ctx bad st = runItems env n proc sel input items i mc be ctx bad st :=
  mono_of_step (fun k => (stepMono env k).runItems proc sel input items i mc be ctx bad st) h

theorem runCore_mono (env : Env) (n m : Nat) (h : n ≤ m) (asl input ctx : Json) :
    (runCore env n asl input ctx).1 ≠ Res.fuel → runCore env m asl input ctx = runCore env n asl input ctx := by
  unfold runCore
  split
  · apply runFrom_mono _ n m h
  · exact fun _ => rfl

theorem run_fuel_independent (env : Env) (n m : Nat) (h : n ≤ m) (asl input ctx : Json) :
    (run env n asl input ctx).status ≠ S "FUEL" → run env m asl input ctx = run env n asl input ctx := by
  intro hs
  rw [run, run, runCore_mono env n m h asl input ctx fun e => hs ((Outcome.ofRun_status ..).2.2.1.mpr e)]

/-! ### the example of the head comment: out of fuel up to fuel 8, the same outcome from 9 on -/

section
private def envK : Env := { tmpl := Lite.tmpl, choose := Lite.choose, task := fun _ p _ => p }
private def k (s : String) : Str := s.toList
private def failSt : Json := .obj [(k "Type", .str (k "Fail")), (k "Error", .str (k "E1"))]
private def b1 : Json := .obj [(k "StartAt", .str (k "F")), (k "States", .obj [(k "F", failSt)])]
private def b2 : Json := .obj [(k "StartAt", .str (k "P")), (k "States", .obj [
  (k "P", .obj [(k "Type", .str (k "Pass")), (k "Next", .str (k "G"))]), (k "G", failSt)])]
private def aslPar : Json := .obj [(k "StartAt", .str (k "Par")), (k "States", .obj [
  (k "Par", .obj [(k "Type", .str (k "Parallel")), (k "Branches", .arr [b1, b2]), (k "End", .bool true)])])]

example : (run envK 5 aslPar (.obj []) (.obj [])).status = S "FUEL" := by decide +kernel
example : (run envK 8 aslPar (.obj []) (.obj [])).status = S "FUEL" := by decide +kernel
example : (run envK 9 aslPar (.obj []) (.obj [])).status = S "FAILED" ∧
    (run envK 9 aslPar (.obj []) (.obj [])).multiFail = true ∧
    (run envK 9 aslPar (.obj []) (.obj [])).trace = [k "Par", k "F", k "P", k "G"] := by
  decide +kernel
/-- non-vacuity of `run_fuel_independent`: its hypothesis holds at fuel 9 -/
example : run envK 1000 aslPar (.obj []) (.obj []) = run envK 9 aslPar (.obj []) (.obj []) :=
  run_fuel_independent envK 9 1000 (by omega) _ _ _ (by decide +kernel)
end

end Asl
