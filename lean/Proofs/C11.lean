/-
C11 — all observability surfaces tell the same story about an execution.
-/
import AslModel.Notify
import AslModel.History
import Proofs.C02
namespace Asl.C11
open Asl

/-- the notification detail reports the record's status, input, output, error and cause -/
theorem surfaces_agree (r : ExecRec) :
    (detailOf r).status = r.status ∧ (detailOf r).input = r.input ∧ (detailOf r).output = r.output ∧
    (detailOf r).error = r.error ∧ (detailOf r).cause = r.cause ∧ (detailOf r).executionArn = r.executionArn ∧
    (detailOf r).stateMachineArn = r.stateMachineArn := by
  simp [detailOf]

theorem toMs_bounds (s : Int) : toMs s * 1000 ≤ s ∧ s < (toMs s + 1) * 1000 :=
  ⟨Int.ediv_mul_le _ (by decide), Int.lt_ediv_add_one_mul_self s (by decide)⟩

/-- dates are published in whole milliseconds: ⌊seconds·1000⌋, i.e. within one millisecond below the
stored instant -/
theorem ms_conversion (r : ExecRec) :
    (detailOf r).startMs * 1000 ≤ r.startMicros ∧ r.startMicros < ((detailOf r).startMs + 1) * 1000 :=
  toMs_bounds r.startMicros

theorem ms_conversion_stop (r : ExecRec) (s : Int) (h : r.stopMicros = some s) :
    ∃ m, (detailOf r).stopMs = some m ∧ m * 1000 ≤ s ∧ s < (m + 1) * 1000 :=
  ⟨toMs s, by simp [detailOf, h], toMs_bounds s⟩

/-- stopDate is published iff it is stored -/
theorem stop_iff (r : ExecRec) : (detailOf r).stopMs.isSome = r.stopMicros.isSome := by
  cases h : r.stopMicros <;> simp [detailOf, h]

/-- publishing a status change does not alter the stored record (which keeps its own units) -/
theorem publish_does_not_alter_record (r : ExecRec) : (publish r).2 = r := rfl

/-- the subject is `<stateMachineArn>.<status>` -/
theorem subject_shape (r : ExecRec) : (publish r).1.1 = r.stateMachineArn ++ ('.' :: r.status) := rfl

/-- each status change is published exactly once: with C02's lifecycle the statuses published for
one execution are pairwise distinct -/
theorem each_status_published_once (is : List LInput) : (Life.run is).notes.Nodup := by
  rcases C02.notes_cases is with h | h | ⟨ok, h⟩
  · simp [h]
  · simp [h]
  · -- the literals as character lists by a theorem: evaluating `String.toList` is quadratic
    cases ok <;> rw [h, statusName, S, String.toList_ofList, S, String.toList_ofList] <;> decide +kernel

/-! non-vacuity -/
private def r0 : ExecRec :=
  { executionArn := S "arn:e", stateMachineArn := S "arn:m", name := S "e", status := S "SUCCEEDED",
    input := some (S "i"), output := some (S "1"), error := none, cause := none,
    startMicros := 1700000000123456, stopMicros := some 1700000005999999 }
example : (detailOf r0).startMs = 1700000000123 ∧ (detailOf r0).stopMs = some 1700000005999 := by
  constructor <;> rfl
example : (publish r0).1.1 = S "arn:m.SUCCEEDED" := by
  rw [subject_shape]
  dsimp only [r0]
  rw [S, String.toList_ofList, S, String.toList_ofList, S, String.toList_ofList]
  rfl

end Asl.C11
