/-
C01 — executions compute what the States Language prescribes.
`Asl.run` is the specification the implementation is compared with; these theorems state the
laws the property names *about that specification*, for every machine, input, environment
(task behaviour, template evaluator, Choice evaluator) and fuel.
-/
import AslModel.Interp
import AslModel.Lite
import Proofs.Lemmas.FuelMono
import Proofs.Lemmas.RunEqs
namespace Asl.C01
open Asl

/-- Fail reports its Error/Cause (defaults `Unspecified`), whatever the input. -/
theorem fail_reports_error (env : Env) (fuel : Nat) (states : Json) (name : Str) (state data ctx : Json)
    (retries : Nat) (st : St) (h : stateType state = S "Fail") :
    runState env (fuel + 1) states name state data ctx retries st =
      (.failed ((fldStr state "Error").getD (S "Unspecified"))
               (some ((fld state "Cause").getD (.str (S "Unspecified")))) true, st) := by
  unfold runState
  simp only [h, S_inj, String.reduceEq, ↓reduceIte]

/-- a state with `End: true` whose output is within the size limit ends the scope successfully with
that output — whatever it contains (in particular an `Error` member does not turn success into failure) -/
theorem end_reached_succeeds (env : Env) (fuel : Nat) (states : Json) (name : Str) (state raw out ctx : Json)
    (retries : Nat) (st : St) (h : isTrue (fld state "End") = true)
    (hL : (render out).length ≤ env.maxData) :
    leave env (fuel + 1) states name state raw out ctx retries st = (.done out, st.exit (stateType state) name out) := by
  rw [leave_end_eq h, if_neg (Nat.not_lt.mpr hL)]

/-- … and when the output of the terminal state is longer than the limit the state fails with
`States.DataLimitExceeded`, subject to its Retry/Catch on its raw input (like a refused transition) -/
theorem end_over_limit_is_data_limit_error (env : Env) (fuel : Nat) (states : Json) (name : Str)
    (state raw out ctx : Json) (retries : Nat) (st : St) (h : isTrue (fld state "End") = true)
    (hL : (render out).length > env.maxData) :
    leave env (fuel + 1) states name state raw out ctx retries st =
      handleErr env fuel states name state raw ctx retries (S "States.DataLimitExceeded") (S "m") st := by
  rw [leave_end_eq h, if_pos hL]

/-- without End the successor is exactly `Next`, entered with the state's output as its input (and the
state is recorded as exited with that output) -/
theorem next_followed (env : Env) (fuel : Nat) (states : Json) (name next : Str) (state raw out ctx : Json)
    (retries : Nat) (st : St) (hE : isTrue (fld state "End") = false) (hN : fldStr state "Next" = some next)
    (hL : (render out).length ≤ env.maxData) :
    leave env (fuel + 1) states name state raw out ctx retries st =
      runFrom env fuel states next out ctx 0 ((st.exit (stateType state) name out).handover next) := by
  rw [leave_next_eq hE hN, if_neg (Nat.not_lt.mpr hL)]

/-- a missing `Next` (and no End) is the runtime error, subject to the state's Retry/Catch — which
work on the state's raw input `raw`, not on the output `out` it could not hand on -/
theorem missing_next_is_runtime_error (env : Env) (fuel : Nat) (states : Json) (name : Str)
    (state raw out ctx : Json) (retries : Nat) (st : St)
    (hE : isTrue (fld state "End") = false) (hN : fldStr state "Next" = none) :
    leave env (fuel + 1) states name state raw out ctx retries st =
      handleErr env fuel states name state raw ctx retries (S "States.Runtime") (S "m") st :=
  leave_no_next_eq hE hN

/-- the Succeed state: InputPath then OutputPath, then success (the output being within the size limit) -/
theorem succeed_state (env : Env) (fuel : Nat) (states : Json) (name : Str) (state data ctx input out : Json)
    (retries : Nat) (st : St) (h : stateType state = S "Succeed")
    (hi : applyPath data ctx (pathArg state "InputPath") = .ok input)
    (ho : applyPath input ctx (pathArg state "OutputPath") = .ok out)
    (hL : (render out).length ≤ env.maxData) :
    runState env (fuel + 1) states name state data ctx retries st = (.done out, st.exit (stateType state) name out) := by
  rw [runState_succeed_eq h hi ho, if_neg (Nat.not_lt.mpr hL)]

/-- a Succeed state whose output is over the limit fails with `States.DataLimitExceeded` (raw input) -/
theorem succeed_over_limit_is_data_limit_error (env : Env) (fuel : Nat) (states : Json) (name : Str)
    (state data ctx input out : Json) (retries : Nat) (st : St) (h : stateType state = S "Succeed")
    (hi : applyPath data ctx (pathArg state "InputPath") = .ok input)
    (ho : applyPath input ctx (pathArg state "OutputPath") = .ok out)
    (hL : (render out).length > env.maxData) :
    runState env (fuel + 1) states name state data ctx retries st =
      handleErr env fuel states name state data ctx retries (S "States.DataLimitExceeded") (S "m") st := by
  rw [runState_succeed_eq h hi ho, if_pos hL]

/-- Pass: InputPath, Parameters, Result (default: the effective input), ResultPath into the *raw*
input, OutputPath — in that order; then Next/End. -/
theorem pass_pipeline (env : Env) (fuel : Nat) (states : Json) (name : Str)
    (state data ctx input params out : Json) (retries : Nat) (st : St)
    (h : stateType state = S "Pass")
    (hi : applyPath data ctx (pathArg state "InputPath") = .ok input)
    (hp : tmplOpt env input ctx (fld state "Parameters") = .ok params)
    (hm : mergeResult data ctx ((fld state "Result").getD params) state = .ok out) :
    runState env (fuel + 1) states name state data ctx retries st =
      leave env fuel states name state data out ctx retries st := by
  unfold runState
  simp only [h, ↓reduceIte, hi, hp, hm]

/-- `mergeResult` is ResultPath (placing into the raw input) followed by OutputPath -/
theorem merge_is_resultpath_then_outputpath (data ctx result state placed : Json)
    (h : applyResultPath data result (pathArg state "ResultPath") = .ok placed) :
    mergeResult data ctx result state = applyPath placed ctx (pathArg state "OutputPath") := by
  simp [mergeResult, h]

/-- Task: InputPath, Parameters, the task, ResultSelector, ResultPath (raw input), OutputPath.  (`ha`: the worker
answers at `tEnd`, before the time limit in force — the earlier of the Task's own, `own`: from `TimeoutSeconds` or
`TimeoutSecondsPath`, and the execution's.) -/
theorem task_pipeline (env : Env) (fuel : Nat) (states : Json) (name fn : Str)
    (state data ctx input params v result out : Json) (retries : Nat) (st : St)
    (h : stateType state = S "Task")
    (hr : rpcFunction ((fldStr state "Resource").getD []) = some fn)
    (hi : applyPath data ctx (pathArg state "InputPath") = .ok input)
    (hp : tmplOpt env input ctx (fld state "Parameters") = .ok params)
    (tEnd : Rat)
    (own : Option Rat) (hown : taskOwnDeadline state data ctx st.clock = .ok own)
    (ha : taskArrival (env.delay fn params (bump st.counts (fn, params)).1)
        ((taskLimit own env.deadline st.clock).map (·.t)) st.clock
      = some (tEnd, false))
    (hv : taskReply env.maxData (env.task fn params (bump st.counts (fn, params)).1) = .ok v)
    (hs : tmplOpt env v ctx (fld state "ResultSelector") = .ok result)
    (hm : mergeResult data ctx result state = .ok out) :
    runState env (fuel + 1) states name state data ctx retries st =
      leave env fuel states name state data out ctx retries
        ((st.closeKeep.request false).taskCall (bump st.counts (fn, params)).2 ((fldStr state "Resource").getD []) params
          (replyEv env.maxData (env.task fn params (bump st.counts (fn, params)).1)) tEnd) := by
  rw [runState_task_answered_eq h hr hi hp hown ha]
  simp only [hv, hs, hm]

/-- a worker's reply whose text is longer than the size limit is the error `States.DataLimitExceeded`,
whatever it says; a reply within the limit is read by `decodeReply` -/
theorem oversize_reply_is_data_limit_error (maxData : Nat) (r : Json) (h : (render r).length > maxData) :
    taskReply maxData r = .err (S "States.DataLimitExceeded") (S "m") :=
  if_pos h

theorem reply_within_limit_is_decoded (maxData : Nat) (r : Json) (h : (render r).length ≤ maxData) :
    taskReply maxData r = decodeReply r :=
  if_neg (Nat.not_lt.mpr h)

/-- a failing task hands its error to the state's Retry/Catch with the state's raw input -/
theorem task_error_goes_to_handler (env : Env) (fuel : Nat) (states : Json) (name fn : Str)
    (state data ctx input params : Json) (e msg : Str) (retries : Nat) (st : St)
    (h : stateType state = S "Task")
    (hr : rpcFunction ((fldStr state "Resource").getD []) = some fn)
    (hi : applyPath data ctx (pathArg state "InputPath") = .ok input)
    (hp : tmplOpt env input ctx (fld state "Parameters") = .ok params)
    (tEnd : Rat)
    (own : Option Rat) (hown : taskOwnDeadline state data ctx st.clock = .ok own)
    (ha : taskArrival (env.delay fn params (bump st.counts (fn, params)).1)
        ((taskLimit own env.deadline st.clock).map (·.t)) st.clock
      = some (tEnd, false))
    (hv : taskReply env.maxData (env.task fn params (bump st.counts (fn, params)).1) = .err e msg) :
    runState env (fuel + 1) states name state data ctx retries st =
      handleErr env fuel states name state data ctx retries e msg
        ((st.closeKeep.request false).taskCall (bump st.counts (fn, params)).2 ((fldStr state "Resource").getD []) params
          (replyEv env.maxData (env.task fn params (bump st.counts (fn, params)).1)) tEnd) := by
  rw [runState_task_answered_eq h hr hi hp hown ha]
  simp only [hv]

/-- after a successful fan-out: ResultSelector on the array of results, ResultPath into the
fan-out state's *raw* input (not its effective input), OutputPath, then Next/End -/
theorem fanout_join_pipeline (env : Env) (fuel : Nat) (states : Json) (name : Str)
    (state data ctx result out : Json) (results : List Json) (retries : Nat) (st : St)
    (hs : tmplOpt env (.arr results) ctx (fld state "ResultSelector") = .ok result)
    (hm : mergeResult data ctx result state = .ok out) :
    joinAndLeave env (fuel + 1) states name state data ctx retries (.ok results) st =
      leave env fuel states name state data out ctx retries st :=
  joinAndLeave_ok_eq hs hm

/-- a failed branch fails the fan-out state with the branch's error name, subject to the fan-out
state's own Retry/Catch, with the fan-out state's raw input -/
theorem fanout_failure_goes_to_handler (env : Env) (fuel : Nat) (states : Json) (name : Str)
    (state data ctx : Json) (e : Str) (c : Option Json) (f : Bool) (retries : Nat) (st : St) :
    ∃ msg, joinAndLeave env (fuel + 1) states name state data ctx retries (.error (.failed e c f)) st =
      handleErr env fuel states name state data ctx retries e msg
        { st with fanFail := st.fanFail || decide (e ≠ execTimeoutName) } :=
  ⟨_, joinAndLeave_failed_eq⟩

/-- branch `b`, started at its StartAt on `params`, ran to completion with output `v` -/
def BranchRan (env : Env) (params ctx b v : Json) : Prop :=
  ∃ f s1 s2 start states, fldStr b "StartAt" = some start ∧ fld b "States" = some states ∧
    runFrom env f states start params ctx 0 s1 = (.done v, s2)

/-- Parallel yields the branch outputs in branch order: when the branches all finish, the result
has one entry per branch and entry k is the output of branch k (run from its StartAt on the
Parallel state's effective input). -/
theorem parallel_results_in_branch_order (env : Env) (fuel : Nat) (bs : List Json) (params ctx : Json)
    (st st' : St) (vs : List Json) (h : runBranches env fuel bs params ctx st = (.ok vs, st')) :
    vs.length = bs.length ∧
    ∀ k (hk : k < bs.length), ∃ v, vs[k]? = some v ∧ BranchRan env params ctx bs[k] v := by
  induction fuel generalizing bs st st' vs with
  | zero => cases h
  | succ n ih =>
    cases bs with
    | nil =>
      cases h
      exact ⟨rfl, nofun⟩
    | cons b bs =>
      obtain ⟨start, states, v, vs', s1, s2, hs, hst, hr, hrest, rfl, _⟩ := runBranches_cons_ok.mp h
      obtain ⟨hlen, hbs⟩ := ih bs _ s2 vs' hrest
      refine ⟨congrArg (· + 1) hlen, fun k hk => ?_⟩
      cases k with
      | zero => exact ⟨v, rfl, n, st.startBranch, s1, start, states, hs, hst, hr⟩
      | succ k => exact hbs k (Nat.lt_of_succ_lt_succ hk)

/-- Map yields the iteration outputs in item order, iteration k seeing item k (through the
ItemSelector when there is one, with `$$.Map.Item.Index = k`).  (`false`: no iteration has failed when
the Map state starts its iterations — the flag `runItems` carries since it stops launching batches after a
failure.) -/
theorem map_results_in_item_order (env : Env) (fuel : Nat) (proc : Json) (sel : Option Json) (input : Json)
    (items : List Json) (i0 mc : Nat) (be : Rat) (ctx : Json) (st st' : St) (vs : List Json)
    (h : runItems env fuel proc sel input items i0 mc be ctx false st = (.ok vs, st')) :
    vs.length = items.length ∧
    ∀ k (hk : k < items.length), ∃ f s1 s2 start states params v,
      fldStr proc "StartAt" = some start ∧ fld proc "States" = some states ∧
      (if isTrue sel then tmplOpt env input (ctxWithMapItem ctx (i0 + k) items[k]) sel else .ok items[k]) = .ok params ∧
      runFrom env f states start params ctx 0 s1 = (.done v, s2) ∧ vs[k]? = some v := by
  induction fuel generalizing items st st' vs i0 be with
  | zero => cases h
  | succ n ih =>
    cases items with
    | nil =>
      cases h
      exact ⟨rfl, nofun⟩
    | cons item items =>
      obtain ⟨st0, start, states, params, v, vs', s1, s2, hs, hst, hp, hr, hrest, rfl⟩ := runItems_cons_ok h
      obtain ⟨hlen, hitems⟩ := ih items (i0 + 1) _ _ s2 vs' hrest
      refine ⟨congrArg (· + 1) hlen, fun k hk => ?_⟩
      cases k with
      | zero => exact ⟨n, _, s1, start, states, params, v, hs, hst, hp, hr, rfl⟩
      | succ k =>
        -- item `k` of the rest has index `i0 + 1 + k`
        have := hitems k (Nat.lt_of_succ_lt_succ hk)
        rwa [Nat.add_right_comm] at this

private theorem go_append (input ctx : Json) (pre : List Json) (h : ∀ p ∈ pre, Lite.evalRule input ctx 50 p ≠ some true)
    (l : List Json) : Lite.choose.go input ctx (pre ++ l) = Lite.choose.go input ctx l := by
  induction pre with
  | nil => rfl
  | cons p ps ih =>
    rw [List.cons_append, Lite.choose.go]
    split
    · rename_i heq; exact absurd heq (h p (by simp))
    · exact ih (fun q hq => h q (by simp [hq]))

/-- Choice (with the comparison fragment of `Lite`): the rules are tried in array order and the
first one that holds decides. -/
theorem choice_first_match (input ctx : Json) (pre : List Json) (r : Json) (post : List Json) (next : Str)
    (hpre : ∀ p ∈ pre, Lite.evalRule input ctx 50 p ≠ some true)
    (hr : Lite.evalRule input ctx 50 r = some true) (hn : r.get "Next" = some (.str next)) :
    Lite.choose.go input ctx (pre ++ r :: post) = some next := by
  rw [go_append _ _ _ hpre]
  simp [Lite.choose.go, hr, hn]

/-- no rule holds → the Default is taken, and without one the state fails with
`States.NoChoiceMatched` (data-independent: stated on the scan) -/
theorem choice_no_match (input ctx : Json) (rs : List Json)
    (h : ∀ p ∈ rs, Lite.evalRule input ctx 50 p ≠ some true) :
    Lite.choose.go input ctx rs = none := by
  rw [← List.append_nil rs, go_append _ _ _ h]
  rfl

/-- the reported status is a function of how the run ended -/
theorem status_succeeded_iff_done (env : Env) (fuel : Nat) (asl input ctx : Json) (start : Str) (states : Json)
    (h1 : fldStr asl "StartAt" = some start) (h2 : fld asl "States" = some states) :
    (run env fuel asl input ctx).status = S "SUCCEEDED" ↔
      ∃ d, (runFrom (env.forMachine asl) fuel states start input ctx 0 {}).1 = .done d := by
  rw [run, runCore_eq h1 h2]
  exact (Outcome.ofRun_status ..).1

theorem status_failed_iff_failed (env : Env) (fuel : Nat) (asl input ctx : Json) (start : Str) (states : Json)
    (h1 : fldStr asl "StartAt" = some start) (h2 : fld asl "States" = some states) :
    (run env fuel asl input ctx).status = S "FAILED" ↔
      ∃ e c f, (runFrom (env.forMachine asl) fuel states start input ctx 0 {}).1 = .failed e c f := by
  rw [run, runCore_eq h1 h2]
  exact (Outcome.ofRun_status ..).2.1

/-- The outcome does not depend on the fuel: a run that ends with anything but fuel exhaustion gives
exactly the same result (status, output, error, trace, oracle consumption) with every larger fuel.
(Proved in Proofs/Lemmas/FuelMono.lean for all seven mutually recursive functions.) -/
theorem run_fuel_independent (env : Env) (n m : Nat) (h : n ≤ m) (asl input ctx : Json) :
    (run env n asl input ctx).status ≠ S "FUEL" → run env m asl input ctx = run env n asl input ctx :=
  Asl.run_fuel_independent env n m h asl input ctx

/-! non-vacuity -/

private def envK : Env := { tmpl := Lite.tmpl, choose := Lite.choose, task := fun _ p _ => p }

private def k (s : String) : Str := s.toList
private def passEnd : Json := .obj [(k "Type", .str (k "Pass")), (k "Result", .obj [(k "Error", .str (k "x"))]), (k "End", .bool true)]
private def aslPass : Json := .obj [(k "StartAt", .str (k "P")), (k "States", .obj [(k "P", passEnd)])]

/-- data-blindness, concretely: a Pass state ending with output `{"Error": "x"}` SUCCEEDS -/
example : (run envK 10 aslPass (.obj []) (.obj [])).status = S "SUCCEEDED" ∧
    (run envK 10 aslPass (.obj []) (.obj [])).output = some (.obj [(k "Error", .str (k "x"))]) := by
  decide +kernel

private def failSt : Json := .obj [(k "Type", .str (k "Fail")), (k "Error", .str (k "E1"))]
example : stateType failSt = S "Fail" := by decide +kernel
example : (render (.str (k "0123456789"))).length > 10 ∧ (render (.num 5)).length ≤ 10 := by decide +kernel
example : isTrue (fld passEnd "End") = true := by decide +kernel

private def par : Json := .obj [(k "StartAt", .str (k "A")), (k "States", .obj [(k "A",
  .obj [(k "Type", .str (k "Pass")), (k "Result", .num 1), (k "End", .bool true)])])]
private def par2 : Json := .obj [(k "StartAt", .str (k "B")), (k "States", .obj [(k "B",
  .obj [(k "Type", .str (k "Pass")), (k "Result", .num 2), (k "End", .bool true)])])]
-- for `decide` in the examples below: the model derives no such instance, and one declared down here cannot change how a
-- statement above elaborates
deriving instance DecidableEq for Except, Res
example : (runBranches envK 10 [par, par2] (.obj []) (.obj []) {}).1 = .ok [.num 1, .num 2] := by decide +kernel

example : (runItems envK 10 par none (.obj []) [.num 7, .num 8] 0 0 0 (.obj []) false {}).1 = .ok [.num 1, .num 1] := by decide +kernel

example : Lite.choose.go (.obj [(k "n", .num 3)]) (.obj [])
    [.obj [(k "Variable", .str (k "$.n")), (k "NumericEquals", .num 1), (k "Next", .str (k "X"))],
     .obj [(k "Variable", .str (k "$.n")), (k "NumericGreaterThan", .num 2), (k "Next", .str (k "Y"))]]
    = some (k "Y") := by decide +kernel

end Asl.C01
