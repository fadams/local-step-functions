/-
C13 — payload templates and intrinsic functions evaluate as specified, fail cleanly.
-/
import AslModel.Template
import Proofs.Lemmas.Intrinsic
import Proofs.Lemmas.IntrinsicParse
import Proofs.Lemmas.Functions
import Proofs.Lemmas.Format
import Proofs.Lemmas.JsonRoundTrip
import Proofs.Lemmas.Base64RoundTrip
namespace Asl.C13

/-- what happens to one object member, at any depth: it is evaluated and renamed exactly
when its name ends in `.$` (and its value is not an array/object); otherwise its name is
kept and its value is walked. -/
theorem template_member (o : Oracles) (input ctx : Json) (k : Str) (v : Json)
    (kvs : List (Str × Json)) :
    walkM o .none input ctx ((k, v) :: kvs) =
      (if endsDollar k = true ∧ isContainer v = false then
         (evalValue o input ctx v).bind fun r =>
           (walkM o .none input ctx kvs).map fun ms => (stripDollar k, r) :: ms
       else
         (walk o .none input ctx v).bind fun r =>
           (walkM o .none input ctx kvs).map fun ms => (k, r) :: ms) := by
  rw [walkM]
  cases hv : isContainer v
  · cases hk : endsDollar k
    · simp [walk_scalar o input ctx v hv]
      cases walkM o Quirks.none input ctx kvs <;> rfl
    · simp
      cases evalValue o input ctx v <;> simp [Except.map, Except.bind]
      cases walkM o Quirks.none input ctx kvs <;> rfl
  · simp
    cases walk o Quirks.none input ctx v <;> simp [Except.map, Except.bind]
    cases walkM o Quirks.none input ctx kvs <;> rfl

/-- a template in which no member name ends in `.$`, at any depth, is copied verbatim
(array elements, whatever they look like, included). -/
theorem template_only_dollar_members (o : Oracles) (input ctx t : Json)
    (h : noDollar t = true) : walk o .none input ctx t = .ok t :=
  walk_noDollar o input ctx t h

/-- scalars are never touched: a scalar member whose name does not end in `.$` keeps name
and value whatever surrounds it. -/
theorem template_literal_member (o : Oracles) (input ctx : Json) (k : Str) (v : Json)
    (kvs ms : List (Str × Json)) (hk : endsDollar k = false) (hv : isContainer v = false)
    (h : walkM o .none input ctx kvs = .ok ms) :
    walkM o .none input ctx ((k, v) :: kvs) = .ok ((k, v) :: ms) := by
  rw [template_member, walk_scalar o input ctx v hv]
  simp [hk, h, Except.bind, Except.map]

example : noDollar (.obj [("a".toList, .arr [.str "$.x.$".toList, .obj [("b.c".toList, .num 1)]])]) = true := by
  decide +kernel

section
-- core gives `Except` no `DecidableEq`
attribute [local instance] exceptDecEq

/-- a `.$` member is evaluated and renamed, its literal neighbour copied -/
example : walk ⟨fun _ _ => [], fun a _ => a, []⟩ .none (.obj [("x".toList, .num 7)]) (.obj [])
    (.obj [("k".toList, .num 1), ("v.$".toList, .str "$.x".toList)]) =
    .ok (.obj [("k".toList, .num 1), ("v".toList, .num 7)]) := by
  decide +kernel

example : evalArg ⟨fun _ _ => [], fun a _ => a, []⟩ (.obj [("x".toList, .num 7)]) (.obj [])
    (.call "States.MathAdd".toList [.path "$.x".toList, .int 1]) = .ok (.num 8) := by
  simp only [evalArg, dispatch_MathAdd]
  decide +kernel

end

/-- Every syntax tree — any function name, any number of arguments of every kind, any
nesting depth, strings containing `,` `(` `)` `'` `\` braces, brackets — is read back from
its printed text. -/
theorem parse_print_intrinsic (f : Str) (args : List Arg) (hw : (Arg.call f args).wf = true) :
    parseIntrinsic (printArg (.call f args)) = some (.call f args) := by
  have h := parseArg_print (.call f args) hw (2 * (printArg (.call f args)).length + 2) []
    (by have := Arg.size_le_print (.call f args); omega) .nil
  simp only [List.append_nil] at h
  simp [parseIntrinsic, h, skipWs]

/-- the same for any argument in any context (`rest` = what follows: end, `,…` or `)…`) -/
theorem parse_print_arg (a : Arg) (hw : a.wf = true) (fuel : Nat) (rest : Str)
    (hf : a.size ≤ fuel) (hr : Follow rest) :
    parseArg fuel (printArg a ++ rest) = some (a, rest) :=
  parseArg_print a hw fuel rest hf hr

/-- a hostile instance of the hypotheses: nesting depth 4, a string with every delimiter -/
example : (Arg.call "States.Format".toList
    [.str "a,b) (c' \\ {} [x]^".toList, .call "States.Array".toList
      [.call "States.ArrayUnique".toList [.call "States.Array".toList [.int (-3), .null, .bool true,
        .path "$.a[0]['k']".toList]]]]).wf = true := by
  -- `String.toList` of a literal is slow to evaluate: rewritten away first
  repeat rw [String.toList_ofList]
  decide +kernel

example : Follow (", 2)".toList) := .comma " 2)".toList

/-- string literals: `\'` is an apostrophe, `\\` a backslash -/
theorem string_literal_escapes (s rest : Str) :
    parseQ false (escStr s ++ '\'' :: rest) = some (s, rest) := parseQ_escStr s rest

/-- `States.Format` of literal chunks `c₀ … cₙ` (written with braces escaped, `{}` between
them) and at least `n` arguments is the chunks and the arguments' texts in turn. -/
theorem format_in_order (o : Oracles) (cs : List Str) (args : List Json) (hne : cs ≠ [])
    (hb : ∀ c ∈ cs.dropLast, c.getLast? ≠ some '\\') (hn : cs.length ≤ args.length + 1) :
    applyFn o "States.Format".toList (.str (printTemplate cs) :: args) =
      .ok (.str (interleave cs (args.map argText))) := by
  rw [dispatch_Format]
  simp [fnFormat, fmtSplit_printTemplate cs hne hb,
    fmtJoin_interleave cs (args.map argText) hne (by simpa using hn)]

example : (["it's {".toList, "} and \\".toList] : List Str) ≠ [] ∧
    (∀ c ∈ (["it's {".toList, "} and \\".toList] : List Str).dropLast, c.getLast? ≠ some '\\') := by
  repeat rw [String.toList_ofList]
  decide +kernel

/-- an unescaped brace that is not part of `{}` is an error, never an attribute access -/
theorem format_rejects_fields (args : List Json) :
    fnFormat (.str "{0.__class__}".toList :: args) = .error .intrinsic := by
  simp [fnFormat, fmtSplit]

/-- `States.ArrayPartition`: the chunks concatenate to the array … -/
theorem partition_flatten (xs : List Json) (n : Int) (hn : 0 < n) :
    ∃ cs : List (List Json), fnArrayPartition [.arr xs, .num n] = .ok (.arr (cs.map .arr)) ∧ cs.flatten = xs :=
  ⟨chunks n.toNat xs.length xs, fnArrayPartition_eq xs n hn, (chunks_spec _ (by omega) _ _ (Nat.le_refl _)).1⟩

/-- … every chunk has between 1 and `n` elements and all but the last exactly `n`. -/
theorem partition_sizes (xs : List Json) (n : Int) (hn : 0 < n) :
    ∃ cs : List (List Json), fnArrayPartition [.arr xs, .num n] = .ok (.arr (cs.map .arr)) ∧
      (∀ c ∈ cs, 0 < c.length ∧ c.length ≤ n.toNat) ∧ (∀ c ∈ cs.dropLast, c.length = n.toNat) :=
  ⟨chunks n.toNat xs.length xs, fnArrayPartition_eq xs n hn, (chunks_spec _ (by omega) _ _ (Nat.le_refl _)).2⟩

example : fnArrayPartition [.arr [.num 1, .num 2, .num 3, .num 4, .num 5], .num 2] =
    .ok (.arr [.arr [.num 1, .num 2], .arr [.num 3, .num 4], .arr [.num 5]]) := by rfl

/-- `States.ArrayRange(a, b, s)`, `s > 0`: the `i`-th element is `a + i·s`, every element is
`≤ b`, the next one would be `> b` (inclusive end), and more than 1000 elements is an error. -/
theorem range_spec_up (a b s : Int) (hs : 0 < s) :
    (fnArrayRange [.num a, .num b, .num s] = .error .intrinsic ∧ 1000 < (rangeUp b s 1001 a).length) ∨
    (∃ l : List Int, fnArrayRange [.num a, .num b, .num s] = .ok (.arr (l.map .num)) ∧ l.length ≤ 1000 ∧
      (∀ (i : Nat) (h : i < l.length), l[i] = a + i * s) ∧ (∀ y ∈ l, y ≤ b) ∧ b < a + l.length * s) := by
  rw [fnArrayRange_eq a b s (by omega), rangeList, if_pos hs]
  by_cases hl : 1000 < (rangeUp b s 1001 a).length
  · exact Or.inl ⟨if_pos hl, hl⟩
  · obtain ⟨h1, h2, h3⟩ := rangeUp_spec b s 1001 a
    exact Or.inr ⟨rangeUp b s 1001 a, if_neg hl, by omega, h1, h2, h3 (by omega)⟩

/-- descending ranges (`s < 0`): elements `≥ b`, the next one would be `< b`. -/
theorem range_spec_down (a b s : Int) (hs : s < 0) :
    (fnArrayRange [.num a, .num b, .num s] = .error .intrinsic ∧ 1000 < (rangeDown b s 1001 a).length) ∨
    (∃ l : List Int, fnArrayRange [.num a, .num b, .num s] = .ok (.arr (l.map .num)) ∧ l.length ≤ 1000 ∧
      (∀ (i : Nat) (h : i < l.length), l[i] = a + i * s) ∧ (∀ y ∈ l, b ≤ y) ∧ a + l.length * s < b) := by
  rw [fnArrayRange_eq a b s (by omega), rangeList, if_neg (show ¬ 0 < s by omega)]
  by_cases hl : 1000 < (rangeDown b s 1001 a).length
  · exact Or.inl ⟨if_pos hl, hl⟩
  · obtain ⟨h1, h2, h3⟩ := rangeDown_spec b s 1001 a
    exact Or.inr ⟨rangeDown b s 1001 a, if_neg hl, by omega, h1, h2, h3 (by omega)⟩

theorem range_zero_step (a b : Int) : fnArrayRange [.num a, .num b, .num 0] = .error .intrinsic := by
  simp [fnArrayRange]

example : fnArrayRange [.num 5, .num 1, .num (-2)] = .ok (.arr [.num 5, .num 3, .num 1]) := by rfl
example : fnArrayRange [.num 1, .num 9, .num 3] = .ok (.arr [.num 1, .num 4, .num 7]) := by rfl

/-- `States.ArrayUnique`: no two results are equal, every input element has an equal
representative, the result is a sub-list of the input in input order, and the element kept
is the first occurrence.  The function is a fixed structural recursion — nothing in it can
depend on a hash seed. -/
theorem unique (xs : List Json) :
    fnArrayUnique [.arr xs] = .ok (.arr (uniq xs)) ∧
    (uniq xs).Pairwise (fun a b => jeq a b = false) ∧
    (∀ y ∈ xs, ∃ z ∈ uniq xs, jeq z y = true) ∧
    (uniq xs).Sublist xs ∧
    (∀ pre y post, xs = pre ++ y :: post → (∀ p ∈ pre, jeq p y = false) → y ∈ uniq xs) :=
  ⟨rfl, uniq_pairwise xs, uniq_complete xs, uniq_sublist xs,
    fun pre y post h hp => h ▸ uniq_keeps_first pre y post hp⟩

example : uniq [.str "b".toList, .num 1, .str "a".toList, .str "b".toList, .bool true, .num 1] =
    [.str "b".toList, .num 1, .str "a".toList, .bool true] := by decide +kernel

/-- `States.ArrayContains` is membership up to JSON equality -/
theorem contains_iff_mem (xs : List Json) (v : Json) :
    ∃ b, fnArrayContains [.arr xs, v] = .ok (.bool b) ∧ (b = true ↔ ∃ x ∈ xs, jeq x v = true) :=
  ⟨xs.any (fun x => jeq x v), rfl, by simp⟩

/-- `States.ArrayGetItem` returns exactly the element at a valid index, and fails otherwise -/
theorem getItem_spec (xs : List Json) (i : Int) :
    fnArrayGetItem [.arr xs, .num i] =
      (if h : 0 ≤ i ∧ i.toNat < xs.length then .ok (xs[i.toNat]'h.2) else .error .intrinsic) := by
  by_cases h : 0 ≤ i ∧ i.toNat < xs.length
  · simp [fnArrayGetItem, h]
  · by_cases h1 : i < 0
    · simp [fnArrayGetItem, h1, h]
    · have h2 : xs.length ≤ i.toNat := by omega
      simp [fnArrayGetItem, h1, h, List.getElem?_eq_none h2]

theorem length_spec (xs : List Json) : fnArrayLength [.arr xs] = .ok (.num xs.length) := rfl

/-- `States.JsonMerge(a, b, false)`: a member of the result is `b`'s (last) value for the
name when `b` has one — taken whole, not merged: shallow — and `a`'s otherwise. -/
theorem merge_shallow_right_biased (a b : List (Str × Json)) (k : Str) :
    ∃ m, fnJsonMerge [.obj a, .obj b, .bool false] = .ok (.obj m) ∧
      objGet m k = (objGetLast b k).or (objGet a k) :=
  ⟨mergeObj a b, rfl, mergeObj_get b a k⟩

/-- only the shallow mode exists -/
theorem merge_deep_refused (a b : Json) : fnJsonMerge [a, b, .bool true] = .error .intrinsic := by
  -- the catch-all equation; side condition: no `false` at the end
  rw [fnJsonMerge]
  simp

example : fnJsonMerge [.obj [("a".toList, .obj [("x".toList, .num 1)]), ("b".toList, .num 2)],
    .obj [("a".toList, .obj [("y".toList, .num 3)])], .bool false] =
    .ok (.obj [("a".toList, .obj [("y".toList, .num 3)]), ("b".toList, .num 2)]) := by rfl

theorem mathAdd_spec (a b : Int) : fnMathAdd [.num a, .num b] = .ok (.num (a + b)) := rfl

/-- booleans are not integers -/
theorem mathAdd_bool (a : Int) (b : Bool) : fnMathAdd [.num a, .bool b] = .error .intrinsic := rfl

/-- `States.StringSplit` for *any* non-empty set of separator characters: no piece contains
a separator, there is one more piece than separators in the input, and pieces and
separators woven together are the input. -/
theorem split_spec (d seps : Str) (hs : seps ≠ []) :
    fnStringSplit [.str d, .str seps] = .ok (.arr ((splitOn seps d).map .str)) ∧
    (∀ p ∈ splitOn seps d, ∀ c ∈ p, seps.contains c = false) ∧
    (splitOn seps d).length = (sepsOf seps d).length + 1 ∧
    weave (splitOn seps d) (sepsOf seps d) = d :=
  ⟨by simp [fnStringSplit, hs], splitOn_spec seps d⟩

example : splitOn "^]\\".toList "a^b]c\\d".toList = ["a".toList, "b".toList, "c".toList, "d".toList] := by
  repeat rw [String.toList_ofList]
  decide +kernel

/-- `States.StringToJson(States.JsonToString(x))` is `x` with repeated member names merged as
a Python `dict` does (last value, first position). -/
theorem json_roundtrip_dedup (o : Oracles) (x : Json) :
    applyFn o "States.StringToJson".toList [.str (render x)] = .ok (normalise x) := by
  rw [dispatch_StringToJson]
  simp [fnStringToJson, leadingZero_render x, parseJson_render_any x]

/-- `States.StringToJson(States.JsonToString(x)) = x` for every value whose object member
names are pairwise distinct at every level (`Json.wf`; true of everything `json.loads`
returns).  Strings and names may contain any characters: quotes, backslashes, control
characters, non-ASCII and astral code points all survive the `\uXXXX` escapes. -/
theorem json_roundtrip (o : Oracles) (x : Json) (h : x.wf = true) :
    applyFn o "States.JsonToString".toList [x] = .ok (.str (render x)) ∧
    applyFn o "States.StringToJson".toList [.str (render x)] = .ok x :=
  ⟨dispatch_JsonToString o [x], by rw [json_roundtrip_dedup, normalise_wf x h]⟩

/-- the same as a nested call in a template -/
theorem json_roundtrip_call (o : Oracles) (input ctx : Json) (a : Arg) (x : Json)
    (ha : evalArg o input ctx a = .ok x) (h : x.wf = true) :
    evalArg o input ctx
      (.call "States.StringToJson".toList [.call "States.JsonToString".toList [a]]) = .ok x := by
  have ⟨h1, h2⟩ := json_roundtrip o x h
  simp only [evalArg, evalArgs, ha, h1, h2]

/-- `States.Base64Decode(States.Base64Encode(s)) = s` for every string `s` — any length
(all three padding cases), any characters (all four UTF-8 length classes up to U+10FFFF) —
through the strict decoder (groups of four, alphabet check, padding only at the end, strict
UTF-8). -/
theorem base64_roundtrip (o : Oracles) (s : Str) :
    applyFn o "States.Base64Encode".toList [.str s] = .ok (.str (b64Enc (utf8Str s))) ∧
    applyFn o "States.Base64Decode".toList [.str (b64Enc (utf8Str s))] = .ok (.str s) := by
  have ⟨h1, h2⟩ := fnBase64_roundtrip s
  exact ⟨(dispatch_Base64Encode o _).trans h1, (dispatch_Base64Decode o _).trans h2⟩

/-- the same as a nested call in a template -/
theorem base64_roundtrip_call (o : Oracles) (input ctx : Json) (a : Arg) (s : Str)
    (ha : evalArg o input ctx a = .ok (.str s)) :
    evalArg o input ctx
      (.call "States.Base64Decode".toList [.call "States.Base64Encode".toList [a]]) =
        .ok (.str s) := by
  have ⟨h1, h2⟩ := base64_roundtrip o s
  simp only [evalArg, evalArgs, ha, h1, h2]

/-- a `.$` member whose value is not a string fails with States.IntrinsicFailure -/
theorem illformed_value (o : Oracles) (input ctx v : Json) (h : ∀ s, v ≠ .str s) :
    evalValue o input ctx v = .error .intrinsic := by
  cases v <;> simp_all [evalValue]

/-- text that is not a call fails with States.IntrinsicFailure -/
theorem illformed_text (o : Oracles) (input ctx : Json) (t : Str) (h : parseIntrinsic t = none) :
    evalIntrinsicText o input ctx t = .error .intrinsic := by
  simp [evalIntrinsicText, h]

/-- a function, whatever it is given (wrong number or kind of arguments, unknown name),
either returns a value or fails with States.IntrinsicFailure -/
theorem illformed_is_intrinsic_failure (o : Oracles) (f : Str) (vs : List Json) (e : PErr)
    (h : applyFn o f vs = .error e) : e = .intrinsic :=
  applyFn_error o f vs e h

/-- evaluating a call fails only with States.IntrinsicFailure or one of the path failures -/
theorem eval_errors (o : Oracles) (input ctx : Json) (a : Arg) (e : PErr)
    (h : evalArg o input ctx a = .error e) : e = .intrinsic ∨ e = .pathMatch ∨ e = .paramPath :=
  evalArg_error o input ctx a e h

example : applyFn ⟨fun _ _ => [], fun a _ => a, []⟩ "locals".toList [] = .error .intrinsic := by
  simp only [applyFn, String.toList_inj, String.reduceEq, ↓reduceIte]
example : fnMathAdd [.num 1] = .error .intrinsic := rfl

end Asl.C13
