/-
C06 — a failing branch fails its Parallel/Map once; siblings cannot disturb the result.
-/
import AslModel.Fan
import AslModel.Retry
import Proofs.Lemmas.FanProto
namespace Asl.C06
open Asl

/-- once the fan-out is over, any input from any sibling is inert: no state change, no effect -/
theorem late_sibling_inert (f : Fan) (i : FanIn) (h : f.over = true) : f.step i = f := by
  cases i <;> simp [Fan.step, h]

theorem step_fail (f : Fan) (i : Nat) (e : Str) (h : f.over = false) :
    f.step (.fail i e) =
      { f with over := true, effects := f.effects ++ (.failWith e :: (pendingExcept f.slots i).map .cancel) } := by
  simp [Fan.step, h]

theorem late_siblings_inert (f : Fan) (is : List FanIn) (h : f.over = true) : is.foldl Fan.step f = f :=
  List.foldl_fixed fun i _ => late_sibling_inert f i h

/-- number of terminal effects (success or failure hand-over) -/
def terminals (f : Fan) : Nat := (f.effects.filter isTerminalEff).length

theorem terminals_append (f : Fan) (es : List FanEff) :
    ((f.effects ++ es).filter isTerminalEff).length = terminals f + (es.filter isTerminalEff).length := by
  simp [terminals, List.filter_append]

theorem step_terminals (f : Fan) (i : FanIn) (h : terminals f = if f.over then 1 else 0) :
    terminals (f.step i) = if (f.step i).over then 1 else 0 := by
  fun_cases Fan.step f i with
  -- over already (1, 4), or a result that leaves the join open (3)
  | case1 | case3 | case4 => exact h
  | case2 k v ho =>
    unfold terminals
    rw [terminals_append, h, if_neg ho]
    rfl
  | case5 k e ho =>
    unfold terminals
    rw [terminals_append, h, if_neg ho]
    simp [List.filter_cons, List.filter_map, Function.comp_def, isTerminalEff]

/-- exactly once: for every sequence of branch completions and failures, in any order and with
any repetitions, the fan-out hands over at most one outcome — and exactly one once it is over -/
theorem fanout_ends_once (n : Nat) (is : List FanIn) :
    terminals (Fan.run n is) = if (Fan.run n is).over then 1 else 0 :=
  List.foldlRecOn (motive := fun f => terminals f = if f.over then 1 else 0) is Fan.step (by simp [terminals, Fan.init])
    (fun f h i _ => step_terminals f i h)

/-- the fan-out fails with the error of the first failing branch: if no branch failed and the
join did not complete before, the hand-over is `failWith e` and nothing later changes that -/
theorem fanout_fails_with_branch_error (f : Fan) (i : Nat) (e : Str) (post : List FanIn)
    (h : f.over = false) :
    (post.foldl Fan.step (f.step (.fail i e))).effects =
      f.effects ++ (.failWith e :: (pendingExcept f.slots i).map .cancel) := by
  rw [step_fail f i e h, late_siblings_inert _ post rfl]

/-- siblings cancelled: at the failure every sibling that has not finished is cancelled -/
theorem siblings_cancelled (f : Fan) (i j : Nat) (e : Str) (h : f.over = false)
    (hj : j < f.slots.length) (hne : j ≠ i) (hp : f.slots[j]? = some none) :
    FanEff.cancel j ∈ (f.step (.fail i e)).effects := by
  rw [step_fail f i e h]
  refine List.mem_append_right _ (List.mem_cons_of_mem _ (List.mem_map.mpr ⟨j, ?_, rfl⟩))
  simp only [pendingExcept, List.mem_filter, List.mem_range]
  exact ⟨hj, by simp [hne, hp]⟩

/-- … and only those: a finished sibling is not cancelled, nor is the failing branch itself -/
theorem only_pending_cancelled (f : Fan) (i j : Nat) (e : Str) (h : f.over = false)
    (hm : FanEff.cancel j ∈ (f.step (.fail i e)).effects) (hold : FanEff.cancel j ∉ f.effects) :
    j ≠ i ∧ (f.slots[j]?).join = none := by
  rw [step_fail f i e h] at hm
  rcases List.mem_append.mp hm with h1 | h1
  · exact absurd h1 hold
  · rcases List.mem_cons.mp h1 with h2 | h2
    · cases h2
    · obtain ⟨k, hk, hkj⟩ := List.mem_map.mp h2
      cases hkj
      simp only [pendingExcept, List.mem_filter, List.mem_range, Bool.and_eq_true, bne_iff_ne, ne_eq,
        Option.isNone_iff_eq_none] at hk
      exact ⟨hk.2.1, hk.2.2⟩

/-! non-vacuity -/
example : (Fan.run 3 [.done 1 (.num 1), .fail 0 (S "E"), .done 2 (.num 2), .fail 2 (S "F"), .done 0 .null]).effects
    = [.failWith (S "E"), .cancel 2] := by decide +kernel
example : (Fan.run 2 [.done 1 (.num 1), .done 0 (.num 0), .fail 1 (S "late")]).effects
    = [.succeed [.num 0, .num 1]] := by decide +kernel

/-! ## nested fan-outs under arbitrary interleavings: the protocol model `AslModel/FanProto.lean`

`run q init is` runs the model on ANY sequence `is` of launches, branch events, deferred handlers, task replies / wait
expiries, cancellation callbacks, top-level endings and back-stop ticks (attempt ids, branch indices, continuations and
Retry / Catch decisions arbitrary); `Quirks.none` is the repaired protocol (the code's, since C06-F3 … C06-F6 were
repaired); each switch has its negation witness below (F5's: `C02.top_unguarded_ends_twice`, with clause (i)). -/
section FanProto
open Asl.FanProto

/-- (ii) in the output sequence of ANY run, under any switches, no hand-over of attempt `a` comes after a failure of `a`:
once an attempt has failed its join never hands over a result, whatever arrives afterwards — results of its own branches,
of attempts nested in them, late events, replies, deferred handlers, in any order -/
theorem terminated_attempt_never_succeeds (q : Quirks) (is : List Inp) (a : Nat) (e : Err) (vs : List Nat)
    (pre post : List Out) (h : (run q init is).2 = pre ++ Out.failAttempt a e :: post) : Out.succeed a vs ∉ post := by
  have hp := run_fail_then_no_succeed q init is wf_init a e vs
  rw [h] at hp
  exact fun hs => List.rel_of_pairwise_cons (List.pairwise_append.mp hp).2.1 hs rfl rfl

/-- … in particular not in answer to anything that arrives later -/
theorem terminated_attempt_never_succeeds_later (q : Quirks) (is1 is2 : List Inp) (a : Nat) (e : Err) (vs : List Nat)
    (h : Out.failAttempt a e ∈ (run q init is1).2) : Out.succeed a vs ∉ (run q (run q init is1).1 is2).2 :=
  fun hs => run_dead_outs q _ is2 a (run_fail_dead q init is1 a wf_init h (Or.inl ⟨e, rfl⟩)) _ hs (Or.inl ⟨vs, rfl⟩)

/-- (iii) the first failure wins: in the repaired protocol an attempt that has failed is never failed (nor torn down) again,
so its state's Retry / Catch runs at most once per attempt … -/
theorem first_failure_wins (is1 is2 : List Inp) (a : Nat) (e e' : Err)
    (h : Out.failAttempt a e ∈ (run Quirks.none init is1).2) :
    Out.failAttempt a e' ∉ (run Quirks.none (run Quirks.none init is1).1 is2).2 ∧
    Out.aborted a ∉ (run Quirks.none (run Quirks.none init is1).1 is2).2 :=
  have hd := run_dead_outs Quirks.none _ is2 a (run_fail_dead Quirks.none init is1 a wf_init h (Or.inl ⟨e, rfl⟩))
  ⟨fun hf => hd _ hf (Or.inr (Or.inr ⟨rfl, e', rfl⟩)), fun ha => hd _ ha (Or.inr (Or.inl rfl))⟩

/-- … and every attempt the failure of a branch fails, up the chain of enclosing attempts, fails with that branch's error -/
theorem failure_carries_branch_error (q : Quirks) (s : Proto) (a i b : Nat) (e e' : Err) (hs : List Handled)
    (h : Out.failAttempt b e' ∈ (step q s (.event a i (.fail e hs))).2) : e' = e := by
  obtain ⟨s1, w, r, hw⟩ := step_says q s _ _ h rfl
  have hf := hw.says _ h
  rcases hw.res with rfl | ⟨k, hk, hr⟩
  · exact absurd (Option.some.inj hf.err).symm hf.genuine
  · cases hk
    cases hr
    exact (Option.some.inj hf.err).symm

/-- (iv) after the execution has ended nothing that arrives — in any order, any number of times — produces anything but
acknowledgements / drops, cancels, tear-downs and the deletion of the retained metadata: no progress, no result, no
failure hand-over, no retry, no catch transition, no second ending -/
theorem late_inputs_inert_after_end (is1 is2 : List Inp) (ok : Bool)
    (h : Out.endExecution ok ∈ (run Quirks.none init is1).2) :
    ∀ o ∈ (run Quirks.none (run Quirks.none init is1).1 is2).2, o.quiet = true :=
  run_quiet_after_end _ is2 (run_inv init is1 inv_init) (run_end_ended init is1 ok inv_init h)

/-- (v) drained when quiet: in every reachable state of an ended execution the metadata is retained only while some
results entry still waits for a result — when no slot is unresolved any more (every outstanding event has been consumed:
delivered or dropped) it is gone … -/
theorem drained_when_quiet (is : List Inp) (he : (run Quirks.none init is).1.ended.isSome = true)
    (hq : ∀ x ∈ (run Quirks.none init is).1.atts, x.seen = true → x.waits = false) :
    (run Quirks.none init is).1.hasMeta = false := by
  cases hm : (run Quirks.none init is).1.hasMeta with
  | false => rfl
  | true =>
    obtain ⟨x, hx, hs, hu⟩ := (run_inv init is inv_init).pending he hm
    rw [hq x hx hs] at hu
    cases hu

/-- … and whatever is still retained then is discarded by the next back-stop tick, without another ending -/
theorem backstop_discards_retained (s : Proto) (he : s.ended.isSome = true) :
    (step Quirks.none s .backstop).1.hasMeta = false ∧ ∀ o ∈ (step Quirks.none s .backstop).2, o = Out.discard := by
  cases hm : s.hasMeta <;> simp [step, he, hm]

/-- (vi) a Retry launches a fresh attempt: in the repaired protocol whatever is addressed to the old, terminated attempt `a`
(a late event, deferred handler, reply or cancellation callback of any of its branches) changes no other attempt that is
alive — in particular not the new attempt — and produces nothing but tidy-up outputs -/
theorem retry_launches_fresh_attempt (s : Proto) (a b i : Nat) (x : Attempt) (inp : Inp)
    (hrun : s.ended = none) (hx : find s.atts a = some x) (ht : x.terminated = true)
    (hne : b ≠ a) (hb : deadChain s.atts b = false)
    (hinp : (∃ k, inp = .event a i k) ∨ (∃ k, inp = .deferred a i k) ∨ (∃ k, inp = .reply a i k) ∨ inp = .echo a i) :
    find (step Quirks.none s inp).1.atts b = find s.atts b ∧ ∀ o ∈ (step Quirks.none s inp).2, o.quiet = true := by
  -- for every live `b` at once (`hne` is implied: `a` is dead)
  have h := step_old_attempt s a i x inp hrun hx ht hinp
  exact ⟨(h.1 b hb).1, h.2⟩

/-- (vii) siblings make no further progress: in the repaired protocol the step in which an attempt fails — whether the
failure is then retried, caught or ends the execution — leaves no task or wait outstanding in any attempt that is dead:
the failed attempt itself and every attempt nested, at any depth, in one of its branches (each is cancelled in that step) -/
theorem failure_cancels_nested (is : List Inp) (inp : Inp) (a : Nat) (e : Err)
    (h : Out.failAttempt a e ∈ (step Quirks.none (run Quirks.none init is).1 inp).2) :
    ∀ x ∈ (step Quirks.none (run Quirks.none init is).1 inp).1.atts, x.seen = true →
      deadChain (step Quirks.none (run Quirks.none init is).1 inp).1.atts x.id = true →
      ∀ sl ∈ x.slots, sl.cancellable = false :=
  step_failure_cancels_nested _ inp a e (run_ts Quirks.none init is ts_init) h

/-- (viii) a cancellation is silent: the Task.Terminated callback of a cancelled task or wait goes through no Retry or
Catch — neither the cancelled state's own nor that of a fan-out around it: whatever the state, the switches and the
decisions an input might list for it, it produces nothing but tidy-up outputs (no progress, no retry, no catch transition) … -/
theorem cancellation_is_silent (q : Quirks) (s : Proto) (a i : Nat) :
    (∀ o ∈ (step q s (.echo a i)).2, o.quiet = true) ∧
    ∀ atts b j hs hs', bubble q s.ended.isSome atts b j (.fail .taskTerminated hs) = bubble q s.ended.isSome atts b j (.fail .taskTerminated hs') := by
  refine ⟨?_, fun atts b j hs hs' => bub_tt_handlers_irrelevant q _ atts b j hs hs'⟩
  cases hf : find s.atts a with
  | none => simp only [step, hf]; exact List.forall_mem_singleton.mpr rfl
  | some x => rw [step_echo q s a i x hf]; exact torn_quiet

/-- … and the same holds for the reply of a task whose attempt is terminated, whatever continuation it carries -/
theorem late_reply_of_terminated_attempt_is_silent (q : Quirks) (s : Proto) (a i : Nat) (k : Kont) (x : Attempt)
    (hf : find s.atts a = some x) (ht : x.terminated = true) :
    (∀ o ∈ (step q s (.reply a i k)).2, o.quiet = true) ∧ step q s (.reply a i k) = step q s (.reply a i .goesOn) := by
  rw [step_reply_terminated q s a i k x hf ht, step_reply_terminated q s a i .goesOn x hf ht]
  exact ⟨torn_quiet, rfl⟩

/-! ### the switches of the recorded findings break exactly these statements (negations, proved on concrete witnesses) -/

/-- the outer attempt 0 (two branches) fails and is retried while attempt 1, nested in its branch 1, has a task out -/
def nestedRetried : List Inp :=
  [.launch 0 2 2 none 0, .event 0 1 .goesOn, .launch 1 1 1 (some (0, 1)) 0, .event 1 0 .arm,
   .event 0 0 (.fail (.plain 1) [.retried])]
/-- … then the nested attempt's task fails too -/
def nestedFailsLater : List Inp := [.reply 1 0 (.fail (.plain 2) [.uncaught, .retried])]

/-- the two switches under which C06-F3 shows: the nested task survives the enclosing failure (C06-F6) and its failure … -/
def asFoundF3 : Quirks := { refail := true, nestedSurvive := true }

/-- C06-F3 (`refail`): … fails the terminated attempt 0 again, with the other error, and retries it a second time -/
theorem refail_breaks_first_failure_wins :
    Out.failAttempt 0 (.plain 1) ∈ (run asFoundF3 init nestedRetried).2 ∧
    Out.failAttempt 0 (.plain 2) ∈ (run asFoundF3 (run asFoundF3 init nestedRetried).1 nestedFailsLater).2 ∧
    Out.retry 0 1 ∈ (run asFoundF3 (run asFoundF3 init nestedRetried).1 nestedFailsLater).2 := by decide +kernel

/-- … then the nested attempt's task answers after all -/
def nestedRepliesLater : List Inp := [.reply 1 0 (.done 3 [true])]

/-- C06-F6 (`nestedSurvive`): the task of the nested attempt 1 is still outstanding after attempt 0 failed (nothing cancelled
it), its late reply is accepted and the abandoned join hands over -/
theorem nested_survive_breaks_cancellation :
    Out.failAttempt 0 (.plain 1) ∈ (run { nestedSurvive := true } init nestedRetried).2 ∧
    Out.cancel 1 0 ∉ (run { nestedSurvive := true } init nestedRetried).2 ∧
    slotOf (run { nestedSurvive := true } init nestedRetried).1.atts 1 0 = some .task ∧
    (run { nestedSurvive := true } (run { nestedSurvive := true } init nestedRetried).1 nestedRepliesLater).2 =
      [.progress 1 0, .succeed 1 [3]] := by decide +kernel

/-- three levels: attempt 2 in attempt 1 in branch 1 of attempt 0; branch 0 of attempt 0 fails unhandled: the execution ends -/
def deepThenOuterFails : List Inp :=
  [.launch 0 2 2 none 0, .event 0 1 .goesOn, .launch 1 1 1 (some (0, 1)) 0, .event 1 0 .goesOn,
   .launch 2 1 1 (some (1, 0)) 0, .event 2 0 .goesOn, .event 0 0 (.fail (.plain 1) [])]
/-- … then the queued event of the innermost branch is delivered -/
def deepEventLater : List Inp := [.event 2 0 (.done 7 [true, true, true])]

/-- C06-F4 (`oneLevel`): after the end the innermost event is accepted and two joins hand over -/
theorem one_level_lookup_breaks_inertness :
    Out.endExecution false ∈ (run { oneLevel := true } init deepThenOuterFails).2 ∧
    Out.progress 2 0 ∈ (run { oneLevel := true } (run { oneLevel := true } init deepThenOuterFails).1 deepEventLater).2 ∧
    Out.succeed 1 [7] ∈ (run { oneLevel := true } (run { oneLevel := true } init deepThenOuterFails).1 deepEventLater).2 := by decide +kernel

/-! non-vacuity: the hypotheses of the theorems above are met by these runs, and the repaired protocol does what they say -/
example : Out.failAttempt 0 (.plain 1) ∈ (run Quirks.none init nestedRetried).2 := by decide +kernel
example : (run Quirks.none init nestedRetried).2 =
    [.launched 0, .progress 0 1, .launched 1, .progress 1 0, .progress 0 0] ++ Out.failAttempt 0 (.plain 1) :: [.retry 0 1, .cancel 1 0] := by
  decide +kernel
/-- the repaired protocol cancels the nested task in the step of the failure; what arrives for it later is an orphan -/
example : slotOf (run Quirks.none init nestedRetried).1.atts 1 0 = some .cancelling ∧
    (run Quirks.none (run Quirks.none init nestedRetried).1 nestedFailsLater).2 = [.orphan 1 0] ∧
    (run Quirks.none (run Quirks.none init nestedRetried).1 ([.echo 1 0] ++ nestedRepliesLater)).2 = [.aborted 1, .orphan 1 0] := by decide +kernel
example : Out.endExecution false ∈ (run Quirks.none init deepThenOuterFails).2 := by decide +kernel
example : (run Quirks.none (run Quirks.none init deepThenOuterFails).1 deepEventLater).2 = [.drop 2 0, .discard] := by decide +kernel
example : (run Quirks.none init deepThenOuterFails).1.ended.isSome = true ∧ (run Quirks.none init deepThenOuterFails).1.hasMeta = true ∧
    (run Quirks.none init (deepThenOuterFails ++ deepEventLater)).1.hasMeta = false := by decide +kernel
example : (step Quirks.none (run Quirks.none init deepThenOuterFails).1 .backstop).2 = [.discard] := by decide +kernel
/-- (vi): attempt 0 retried, attempt 3 launched in its place; a late reply for the old nested attempt 1 … -/
example : (run Quirks.none init (nestedRetried ++ [.launch 3 2 2 none 1, .event 3 0 .goesOn])).1.ended = none ∧
    deadChain (run Quirks.none init (nestedRetried ++ [.launch 3 2 2 none 1, .event 3 0 .goesOn])).1.atts 3 = false ∧
    (find (run Quirks.none init (nestedRetried ++ [.launch 3 2 2 none 1, .event 3 0 .goesOn])).1.atts 0).map (·.terminated) = some true := by
  decide +kernel
example : (step Quirks.none (run Quirks.none init nestedRetried).1 (.event 0 0 (.fail (.plain 5) []))).2 = [.drop 0 0] := by
  decide +kernel
/-- an unhandled failure of the innermost branch fails all three attempts of the chain with the same error -/
example : (step Quirks.none (run Quirks.none init (deepThenOuterFails.take 6)).1 (.event 2 0 (.fail (.plain 9) []))).2 =
    [.progress 2 0, .failAttempt 2 (.plain 9), .failAttempt 1 (.plain 9), .failAttempt 0 (.plain 9), .endExecution false] := by
  decide +kernel

/-- a Map of three items using MaxConcurrency 1: the join waits for the batches not launched yet and hands over once -/
example : (run Quirks.none init [.launch 0 3 1 none 0, .event 0 0 (.done 5 [true]), .batch 0 1 2 false, .batch 0 1 2 true,
    .event 0 1 (.done 6 [true]), .batch 0 2 3 false, .batch 0 2 3 true, .event 0 2 (.done 7 [true])]).2.filter (fun o => !o.quiet && o != .progress 0 0
      && o != .progress 0 1 && o != .progress 0 2) = [.launched 0, .succeed 0 [5, 6, 7], .endExecution true] := by decide +kernel
/-- … and the re-entry event of a nested Map that arrives after the enclosing attempt failed is dropped: its batch is never launched -/
example : (run Quirks.none init [.launch 0 2 2 none 0, .event 0 1 .goesOn, .launch 1 3 1 (some (0, 1)) 0, .event 1 0 (.done 5 [true]),
    .event 0 0 (.fail (.plain 1) []), .batch 1 1 2 false]).2 =
    [.launched 0, .progress 0 1, .launched 1, .progress 1 0, .progress 0 0, .failAttempt 0 (.plain 1), .endExecution false,
     .drop 1 1, .discard] := by decide +kernel

/-- the last result completes the join of the nested attempt 1, whose state then fails (its ResultPath, say) and is not
handled: the enclosing attempt 0 fails with that error, is retried, and its other branch is cancelled -/
example : (run Quirks.none init [.launch 0 2 2 none 0, .event 0 0 .arm, .event 0 1 .goesOn, .launch 1 1 1 (some (0, 1)) 0,
    .event 1 0 (.doneFail 4 (.plain 3) [.uncaught, .retried])]).2 =
    [.launched 0, .progress 0 0, .progress 0 1, .launched 1, .progress 1 0, .joinFailed 1 (.plain 3), .failAttempt 0 (.plain 3),
     .retry 0 1, .cancel 0 0] := by decide +kernel

/-- attempt 0 is terminated with a task of its branch 1 still registered: its late reply, whatever it would have led to -/
example : (find (run { nestedSurvive := true } init [.launch 0 2 2 none 0, .event 0 1 .arm, .event 0 0 (.fail (.plain 1) [.caught])]).1.atts 0).map
    (fun x => (x.terminated, x.slots)) = some (true, [.done 0, .cancelling]) := by decide +kernel

end FanProto

end Asl.C06
