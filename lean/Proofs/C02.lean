/-
C02 — every execution ends exactly once and its terminal record never changes.
The lifecycle automaton `Life` is the specification of what observers of one execution may see;
the theorems hold for every input sequence (all schedules of starts, terminal attempts and
late events).  The second part is clause (i) of C06.
-/
import AslModel.History
import Proofs.Lemmas.FanProto
namespace Asl.C02
open Asl

theorem step_frozen (l : Life) (ok : Bool) (i : LInput) (h : l.phase = .done ok) : l.step i = l := by
  cases i <;> simp [Life.step, h]

/-- once terminal, nothing an execution receives later changes its status or adds a notification -/
theorem terminal_frozen (l : Life) (ok : Bool) (is : List LInput) (h : l.phase = .done ok) :
    is.foldl Life.step l = l :=
  List.foldl_fixed fun i _ => step_frozen l ok i h

/-- the shape invariant: new ↔ no notification, running ↔ [RUNNING], done T ↔ [RUNNING, T] -/
def Shape (l : Life) : Prop :=
  match l.phase with
  | .new => l.notes = []
  | .running => l.notes = [S "RUNNING"]
  | .done ok => l.notes = [S "RUNNING", statusName ok]

theorem shape_step (l : Life) (i : LInput) (h : Shape l) : Shape (l.step i) := by
  fun_cases Life.step l i with
  -- an input that the phase ignores (2, 4, 5); a transition (1, 3)
  | case2 | case4 | case5 => exact h
  | case1 hp | case3 ok hp =>
    unfold Shape at h ⊢
    rw [hp] at h
    simp [h]

theorem shape_run (is : List LInput) : Shape (Life.run is) :=
  List.foldlRecOn is Life.step (by simp [Shape]) (fun l h i _ => shape_step l i h)

theorem notes_cases (is : List LInput) :
    (Life.run is).notes = [] ∨ (Life.run is).notes = [S "RUNNING"] ∨
      ∃ ok, (Life.run is).notes = [S "RUNNING", statusName ok] := by
  have h := shape_run is
  unfold Shape at h
  split at h
  · exact Or.inl h
  · exact Or.inr (Or.inl h)
  · exact Or.inr (Or.inr ⟨_, h⟩)

/-- for **every** sequence of events an execution can receive, the notifications published for it
are a prefix of [RUNNING, T] with T ∈ {SUCCEEDED, FAILED}: one RUNNING, at most one terminal. -/
theorem notifications_at_most_once (is : List LInput) : notesOK (Life.run is).notes = true := by
  rcases notes_cases is with h | h | ⟨ok, h⟩
  · simp [h, notesOK]
  · simp [h, notesOK]
  · cases ok <;> simp [h, notesOK, statusName] <;> decide

/-- exactly once: after a start and a terminal attempt the execution is terminal with the status
of the *first* attempt, whatever else arrives before, between or after -/
theorem ends_exactly_once (pre mid post : List LInput) (ok : Bool)
    (hpre : ∀ i ∈ pre, i = .other) (hmid : ∀ i ∈ mid, i = .other) :
    (Life.run (pre ++ (.start :: (mid ++ (.finish ok :: post))))).notes = [S "RUNNING", statusName ok] := by
  have hother : ∀ (xs : List LInput) (l : Life), (∀ i ∈ xs, i = .other) → xs.foldl Life.step l = l :=
    fun xs l h => List.foldl_fixed fun i hi => by rw [h i hi]; rfl
  unfold Life.run
  rw [List.foldl_append, hother pre _ hpre, List.foldl_cons, List.foldl_append, hother mid _ hmid, List.foldl_cons,
    terminal_frozen _ ok post rfl]
  rfl

/-! non-vacuity -/
example : (Life.run [.other, .start, .other, .finish false, .finish true, .other, .start]).notes
    = [S "RUNNING", S "FAILED"] :=
  ends_exactly_once [.other] [.other] [.finish true, .other, .start] false (by simp) (by simp)
example : notesOK [S "RUNNING", S "SUCCEEDED"] = true ∧ notesOK [S "RUNNING", S "FAILED", S "FAILED"] = false := by decide +kernel

/-! ## the execution ends at most once under nested fan-outs and arbitrary interleavings (`AslModel/FanProto.lean`) -/
section FanProto
open Asl.FanProto

/-- (i) for EVERY sequence of fan-out launches, branch events, deferred handlers, task replies, cancellation callbacks,
top-level endings and back-stop ticks, the repaired protocol (`Quirks.none`) outputs at most one `endExecution` -/
theorem execution_ends_at_most_once (is : List Inp) : ((run Quirks.none init is).2.filter isEnd).length ≤ 1 := by
  rw [show (run Quirks.none init is).2.filter isEnd = _ from run_endings init is inv_init]
  cases (run Quirks.none init is).1.ended <;> simp [endsOf]

/-- … and once it has ended it stays ended with nothing but tidy-up outputs, whatever the state it ended in -/
theorem ended_is_final (s : Proto) (is : List Inp) (hi : Inv s) (he : s.ended.isSome = true) :
    (run Quirks.none s is).1.ended.isSome = true ∧ (run Quirks.none s is).2.filter isEnd = [] :=
  ⟨run_ended_mono _ s is he, quiet_filter_nil _ (run_quiet_after_end s is hi he)⟩

/-- a fan-out whose failure is caught (metadata retained while the execution runs on at the top level), then the back
stop finds the metadata expired, then the stalled top-level continuation reaches its terminal state -/
def caughtThenBackstopThenTopEnd : List Inp :=
  [.launch 0 2 2 none 0, .event 0 1 .goesOn, .event 0 0 (.fail (.plain 1) [.caught]), .backstop, .topEnd true]

/-- C06-F5 (`topUnguarded`): the code as it is ends that execution twice (FAILED by the back stop, then SUCCEEDED) -/
theorem top_unguarded_ends_twice :
    (run { topUnguarded := true } init caughtThenBackstopThenTopEnd).2.filter isEnd = [.endExecution false, .endExecution true] := by
  decide +kernel

/-! non-vacuity -/
example : (run Quirks.none init caughtThenBackstopThenTopEnd).2.filter isEnd = [.endExecution false] := by decide +kernel
example : Inv (run Quirks.none init caughtThenBackstopThenTopEnd).1 ∧
    (run Quirks.none init caughtThenBackstopThenTopEnd).1.ended.isSome = true :=
  ⟨run_inv _ _ inv_init, by decide +kernel⟩

end FanProto

end Asl.C02
