/-
C18 — validator-accepted machines run; uninterpretable ones hurt only themselves.

`Machine.WF` is the property's reading of "a definition without problems"; the interpreter's
"Illegal State Machine" failures are the five sites (a)–(e) listed in `AslModel/Machine.lean`,
whose reachability is the predicate `illRun` (`site_a`, `site_b`, `site_c`, `site_e` tie these
sites of the real functions to the predicate, site (d) has no such theorem).
The second sentence of the property (poison events) is checked on the real engine only (see
harness/props/c18.py); there is no theorem for it here.
-/
import Proofs.Lemmas.Machine
namespace Asl.C18
open Asl.Machine

/-- **Main theorem.**  A well-formed definition never reaches an "Illegal State Machine" site:
not (a) an undefined state name, (b) a missing `Next`, (c) an unknown `Type`, (d) a Catcher without
`Next`, nor (e) a branch / iterator without `StartAt`/`States` — for every input, context, task
behaviour, template evaluator and fuel, and every Choice evaluator that answers the `Next` of one
of the state's rules.  (Invariant: the current state name is defined in the current scope, and the
current scope is well-formed; induction on the fuel, the statement `Safe` covering
runFrom / runState / leave / handleErr / joinAndLeave / runBranches / runItems together, all state types,
arbitrary nesting.) -/
theorem wf_no_illegal_machine (env : Env) (hch : ChooseOK env) (fuel : Nat) (m input ctx : Json)
    (h : WF m = true) : illRun env fuel m input ctx = false := by
  obtain ⟨s, kvs, hs, hk, hdef, hw⟩ := wfBranch_inv (WF_inv h).1
  simp only [illRun, hs, hk]
  exact (safe_all env hch fuel).from_ _ _ _ _ _ _ ⟨_, hw⟩ hdef

/-- the same inside any well-formed scope (a branch, an iterator), from any of its states -/
theorem wf_scope_no_illegal (env : Env) (hch : ChooseOK env) (fuel d : Nat) (kvs : List (Str × Json))
    (name : Str) (data ctx : Json) (retries : Nat) (st : St)
    (hw : wfScope d kvs = true) (hn : defined kvs name = true) :
    illFrom env fuel (.obj kvs) name data ctx retries st = false :=
  (safe_all env hch fuel).from_ _ _ _ _ _ _ ⟨d, hw⟩ hn

/-- the hypothesis on the Choice evaluator holds for the evaluator the driver runs -/
theorem lite_chooseOK (tmpl : Json → Json → Json → Except PErr Json) (task : TaskFn) :
    ChooseOK { tmpl := tmpl, choose := Lite.choose, task := task } := by
  intro state input raw ctx n h
  exact lite_go_mem input ctx _ n h

/-- (a) an undefined name: the real `runFrom` answers the Illegal-State-Machine failure and the
predicate flags it -/
theorem site_a (env : Env) (fuel : Nat) (kvs : List (Str × Json)) (name : Str) (data ctx : Json) (r : Nat) (st : St)
    (h : objGet kvs name = none) :
    runFrom env (fuel + 1) (.obj kvs) name data ctx r st =
      (.failed (S "States.Runtime") (some (.str (S "<cause>"))) false, st) ∧
    illFrom env (fuel + 1) (.obj kvs) name data ctx r st = true := by
  simp [runFrom, illFrom, h]

/-- (b) neither End nor Next: the real `leave` raises States.Runtime (handled on the state's raw
input) and the predicate flags it -/
theorem site_b (env : Env) (fuel : Nat) (states : Json) (name : Str) (state raw data ctx : Json) (r : Nat) (st : St)
    (hE : isTrue (fld state "End") = false) (hN : fldStr state "Next" = none) :
    leave env (fuel + 1) states name state raw data ctx r st =
      handleErr env fuel states name state raw ctx r (S "States.Runtime") (S "m") st ∧
    illLeave env (fuel + 1) states name state raw data ctx r st = true :=
  ⟨leave_no_next_eq hE hN, by simp [illLeave, hE, hN]⟩

/-- (c) a Type that is none of the eight -/
theorem site_c (env : Env) (fuel : Nat) (states : Json) (name : Str) (state data ctx : Json) (r : Nat) (st : St)
    (h : stateType state ∉ knownTypes) :
    runState env (fuel + 1) states name state data ctx r st =
      (.failed (S "States.Runtime") (some (.str (S "<cause>"))) false, st) ∧
    illState env (fuel + 1) states name state data ctx r st = true := by
  simp only [knownTypes, List.mem_cons, List.not_mem_nil, or_false, not_or] at h
  simp [runState, illState, h]

/-- (e) a branch without `States` -/
theorem site_e (env : Env) (fuel : Nat) (b : Json) (bs : List Json) (params ctx : Json) (st : St)
    (h : fld b "States" = none) :
    runBranches env (fuel + 1) (b :: bs) params ctx st =
      (.error (.failed (S "States.Runtime") (some (.str (S "<cause>"))) false), st) ∧
    illBranches env (fuel + 1) (b :: bs) params ctx st = true := by
  -- whatever `StartAt` is, the missing `States` leads both functions to the failure arm
  constructor
  · rw [runBranches, h]
    split <;> simp_all
  · rw [illBranches, h]
    split <;> simp_all

/-- in a well-formed scope the real `runFrom` finds its state (site (a) is not taken) -/
theorem wf_runFrom_finds (env : Env) (fuel d : Nat) (kvs : List (Str × Json)) (name : Str) (data ctx : Json)
    (r : Nat) (st : St) (hw : wfScope d kvs = true) (hn : defined kvs name = true) :
    ∃ state, objGet kvs name = some state ∧ wfState d kvs state = true ∧
      runFrom env (fuel + 1) (.obj kvs) name data ctx r st =
        runState env fuel (.obj kvs) name state data (ctxFor ctx name r) r
          ((st.enter (stateType state) name data r).visit (stateType state)) := by
  obtain ⟨state, hs⟩ := defined_get hn
  exact ⟨state, hs, wfScope_get hw hs, by simp [runFrom, hs]⟩

/-- in a well-formed scope the real `leave` ends, reports the data limit, or continues at a state
defined in the same scope (site (b) is not taken) -/
theorem wf_leave_continues (env : Env) (fuel : Nat) (kvs : List (Str × Json)) (name : Str) (state raw data ctx : Json)
    (r : Nat) (st : St) (hl : leaveOk kvs state = true) :
    leave env (fuel + 1) (.obj kvs) name state raw data ctx r st = (.done data, st.exit (stateType state) name data) ∨
    leave env (fuel + 1) (.obj kvs) name state raw data ctx r st =
      handleErr env fuel (.obj kvs) name state raw ctx r (S "States.DataLimitExceeded") (S "m") st ∨
    ∃ next, defined kvs next = true ∧
      leave env (fuel + 1) (.obj kvs) name state raw data ctx r st =
        runFrom env fuel (.obj kvs) next data ctx 0 ((st.exit (stateType state) name data).handover next) := by
  cases hE : isTrue (fld state "End")
  · obtain ⟨n, hn, hdn⟩ := leaveOk_next hl hE
    rw [leave_next_eq hE hn]
    by_cases hlen : (render data).length > env.maxData
    · exact .inr (.inl (if_pos hlen))
    · exact .inr (.inr ⟨n, hdn, if_neg hlen⟩)
  · rw [leave_end_eq hE]
    by_cases hlen : (render data).length > env.maxData
    · exact .inr (.inl (if_pos hlen))
    · exact .inl (if_neg hlen)

/-- every state of a well-formed definition's top scope has one of the eight Types, and the
definition's `StartAt` is one of them (the real `run` enters the interpreter) -/
theorem wf_start_defined (m : Json) (h : WF m = true) :
    ∃ start kvs state, fldStr m "StartAt" = some start ∧ fld m "States" = some (.obj kvs) ∧
      objGet kvs start = some state ∧ stateType state ∈ knownTypes := by
  obtain ⟨s, kvs, hs, hk, hdef, hw⟩ := wfBranch_inv (WF_inv h).1
  obtain ⟨state, hst⟩ := defined_get hdef
  obtain ⟨_, _, _, _, F⟩ := wfState_inv (wfScope_get hw hst)
  exact ⟨s, kvs, state, hs, hk, hst, F.known⟩

/-- every JSON value gets a verdict: no problem exactly when it is well-formed, otherwise a
non-empty problem list (never an exception, never divergence — `lint` is a total function) -/
theorem decode_total (j : Json) : (lint j = [] ∧ WF j = true) ∨ (lint j ≠ [] ∧ WF j = false) := by
  fun_cases lint j
  · exact .inl ⟨rfl, ‹_›⟩
  · -- an empty diagnosis is replaced by `[.illFormed]`
    exact .inr ⟨List.cons_ne_nil _ _, Bool.eq_false_iff.mpr ‹_›⟩
  · exact .inr ⟨‹_›, Bool.eq_false_iff.mpr ‹_›⟩

/-- a JSON value that is not an object is never accepted -/
theorem nonobject_rejected (j : Json) (h : ∀ kvs, j ≠ .obj kvs) : WF j = false ∧ lint j = [.notAnObject] := by
  cases j with
  | obj kvs => exact absurd rfl (h kvs)
  | _ => simp [WF, wfBranch, fldStr, fld, Json.get, lint, diagnose]

/-- well-formed definitions have no two states of the same name, at any nesting level -/
theorem wf_unique_names (m : Json) (h : WF m = true) : nodup (namesIn m.size m) = true :=
  (WF_inv h).2.1

/-- a well-formed definition's execution time limit, when given, is a number, and the `MaxConcurrency` of each
of its Map states a non-negative integer (what the engine refuses to interpret otherwise) -/
theorem wf_time_limit_is_number (m : Json) (h : WF m = true) : timeoutOk m = true :=
  (WF_inv h).2.2.1

/-- no state of a well-formed definition, at any nesting level, has the empty string for its name (the engine takes an
event whose state name is empty for the start of a new execution) -/
theorem wf_names_nonempty (m : Json) (h : WF m = true) : [] ∉ namesIn m.size m := by
  simpa [namesOk] using (WF_inv h).2.2.2

def P (next : Option String) : Json :=
  .obj ([(S "Type", .str (S "Pass"))] ++ match next with
    | some n => [(S "Next", .str (S n))]
    | none => [(S "End", .bool true)])

/-- Task with a Catcher → Choice → Parallel (one branch) / Map (an iterator) → Succeed -/
def good : Json :=
  .obj [(S "StartAt", .str (S "T")),
        (S "States", .obj [
          (S "T", .obj [(S "Type", .str (S "Task")), (S "Resource", .str (S "arn:aws:rpcmessage:local::function:f")),
                        (S "Catch", .arr [.obj [(S "ErrorEquals", .arr [.str (S "States.ALL")]), (S "Next", .str (S "Z"))]]),
                        (S "Next", .str (S "C"))]),
          (S "C", .obj [(S "Type", .str (S "Choice")),
                        (S "Choices", .arr [.obj [(S "Variable", .str (S "$.a")), (S "IsPresent", .bool true),
                                                  (S "Next", .str (S "Q"))]]),
                        (S "Default", .str (S "M"))]),
          (S "Q", .obj [(S "Type", .str (S "Parallel")), (S "End", .bool true),
                        (S "Branches", .arr [.obj [(S "StartAt", .str (S "B1")), (S "States", .obj [(S "B1", P none)])]])]),
          (S "M", .obj [(S "Type", .str (S "Map")), (S "Next", .str (S "Z")),
                        (S "Iterator", .obj [(S "StartAt", .str (S "I1")),
                                             (S "States", .obj [(S "I1", P (some "I2")), (S "I2", P none)])])]),
          (S "Z", .obj [(S "Type", .str (S "Succeed"))])])]

def dangling : Json :=
  .obj [(S "StartAt", .str (S "A")), (S "States", .obj [(S "A", P (some "Nowhere"))])]

def dupNames : Json :=
  .obj [(S "StartAt", .str (S "A")),
        (S "States", .obj [(S "A", .obj [(S "Type", .str (S "Parallel")), (S "End", .bool true),
          (S "Branches", .arr [.obj [(S "StartAt", .str (S "A")), (S "States", .obj [(S "A", P none)])]])])])]

def emptyBranches : Json :=
  .obj [(S "StartAt", .str (S "A")),
        (S "States", .obj [(S "A", .obj [(S "Type", .str (S "Parallel")), (S "End", .bool true), (S "Branches", .arr [])])])]

def liteEnv : Env := { tmpl := Lite.tmpl, choose := Lite.choose, task := fun _ _ _ => .obj [] }

theorem good_wf : WF good = true := by decide +kernel

/-- the hypothesis of the main theorem is met by a machine using every structural feature -/
example : WF good = true := good_wf
example : lint good = [] := by simp [lint, good_wf]
/-- … and by the driver's environment -/
example : ChooseOK liteEnv := lite_chooseOK _ _
/-- the predicate is not constantly false: a dangling `Next` is reached and flagged … -/
example : WF dangling = false ∧ illRun liteEnv 10 dangling (.obj []) (.obj []) = true := by decide +kernel
/-- … duplicate names across nesting levels and an empty `Branches` are refused -/
example : lint dupNames = [.duplicateNames] := by decide +kernel
example : WF emptyBranches = false := by decide +kernel
/-- … and so is a branch whose only state is named by the empty string (what the engine fails as an Illegal State
Machine although every transition target is defined) -/
def emptyName : Json := .obj [(S "StartAt", .str (S "P")), (S "States", .obj [(S "P", .obj [(S "Type", .str (S "Parallel")),
  (S "End", .bool true), (S "Branches", .arr [.obj [(S "StartAt", .str []), (S "States", .obj [([], .obj [(S "Type", .str (S "Pass")), (S "End", .bool true)])])]])])])]
example : WF emptyName = false ∧ namesOk emptyName = false ∧ wfBranch emptyName.size emptyName = true := by decide +kernel
/-- `decode_total` on values that are no definitions at all -/
example : lint (.num 3) = [.notAnObject] ∧ lint (.arr []) = [.notAnObject] ∧ lint (.obj []) = [.noStates] := by decide +kernel
/-- hypotheses of `site_a` / `site_c`: a scope without the name; a state with an unknown Type -/
example : objGet [(S "A", P none)] (S "B") = none := by decide +kernel
example : stateType (.obj [(S "Type", .str (S "Foo"))]) ∉ knownTypes := by decide +kernel

end Asl.C18
