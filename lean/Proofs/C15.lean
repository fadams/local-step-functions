/-
C15 — child executions and task-token callbacks complete exactly their launching task.
Model: AslModel/Tasks.lean.
All theorems are stated for `Quirks.none` (the property's reading).
-/
import Proofs.Lemmas.Tasks
namespace Asl.C15
open Asl.Tasks

/-- decode (encode c r) = some (c, r), on the raw token text, for event ids and reply queue names
free of the separator -/
theorem token_roundtrip_partial (e q : Str) (he : ':' ∉ e) (hq : ':' ∉ q) (hf : isPrefix replyFamily q = true) :
    decodeRaw (rawToken (tokenCid e) q) = some (tokenCid e, q) := by
  have hs : ':' ∉ tokenCid e := by simp [tokenCid, he, wfttSuffix]
  rw [decodeRaw_rawToken _ _ hs]
  simp [hq, tokenCid, endsWith_append, hf]

/-- decode (encode c r) = some (c, r): the opaque token (base64 of the UTF-8 text) presented back to
SendTaskSuccess / SendTaskFailure decodes to exactly the correlation id and reply queue it was
minted from — for every event id and every reply queue name free of the separator. -/
theorem token_roundtrip (e q : Str) (he : ':' ∉ e) (hq : ':' ∉ q) (hf : isPrefix replyFamily q = true) :
    decodeToken (encodeToken (tokenCid e) q) = some (tokenCid e, q) :=
  (decodeToken_encodeToken _ q).trans (token_roundtrip_partial e q he hq hf)

example : decodeRaw (rawToken (tokenCid ['e', '1']) (replyFamily ++ ['-', 'i'])) =
    some (tokenCid ['e', '1'], replyFamily ++ ['-', 'i']) :=
  token_roundtrip_partial _ _ (by decide +kernel) (by decide +kernel) (by decide +kernel)

/-- a raw token naming any queue outside the engine's reply queue family is not a token -/
theorem foreign_queue_rejected (c q : Str) (hq : isPrefix replyFamily q = false) (hc : ':' ∉ c) :
    decodeRaw (rawToken c q) = none := by
  rw [decodeRaw_rawToken _ _ hc]
  simp [hq]

example : decodeRaw (rawToken (tokenCid ['e']) "asl_workflow_events".toList) = none := by
  -- evaluating `String.toList` on a literal is quadratic
  rw [String.toList_ofList]
  decide +kernel

/-- A message carrying the task's own token (correlation id) completes it, with exactly the supplied
output / error; what else the step logs are cancellations, and the request is gone afterwards. -/
theorem callback_completes_once (d : Disp) (cid : Str) (r : Req) (s : Bool) (body : Json)
    (hp : aGet d.pending cid = some r) :
    (∃ extra, (onReply Quirks.none d cid (some s) body).log =
        d.log ++ ⟨r.owner, cid, .callback, callbackOutcome Quirks.none s body⟩ :: extra ∧
        ∀ x ∈ extra, x.via = .cancel ∨ x.via = .waitCancel) ∧
    aGet (onReply Quirks.none d cid (some s) body).pending cid = none ∧
    callbackOutcome Quirks.none true body = .ok body := by
  rw [onReply_callback _ d cid r s body hp]
  have sp := complete_spec { d with pending := aDel d.pending cid }
    ⟨r.owner, cid, .callback, callbackOutcome Quirks.none s body⟩
  exact ⟨sp.1, sp.2 cid (by simp [aGet_aDel]), rfl⟩

/-- … at most once: over any sequence of later operations (callbacks, duplicates, replies, timeouts,
cancellations, other launches) that does not register the same correlation id again, the number of
completions logged under it plus "still pending" never grows. -/
theorem completes_at_most_once (cid : Str) (ops : List Op) (d : Disp)
    (h : ∀ op ∈ ops, op.registers cid = false) :
    countKey cid (run Quirks.none d ops).log + hasKey (run Quirks.none d ops).pending cid
      ≤ countKey cid d.log + hasKey d.pending cid :=
  phi_run cid ops d h

/-- duplicates are inert: once the request is gone nothing is ever completed under its id again -/
theorem duplicates_inert (cid : Str) (ops : List Op) (d : Disp)
    (h : ∀ op ∈ ops, op.registers cid = false) (hgone : aGet d.pending cid = none) :
    countKey cid (run Quirks.none d ops).log ≤ countKey cid d.log := by
  have := completes_at_most_once cid ops d h
  rw [hasKey_none _ _ hgone] at this
  exact Nat.le_trans (Nat.le_add_right _ _) this

def exDisp : Disp :=
  launchRpc { replyQueue := replyFamily } .token ['e'] ['X']

example : aGet exDisp.pending (tokenCid ['e']) = some ⟨['e'], ['X'], .token⟩ := by decide +kernel
example : ∀ op ∈ [Op.reply (tokenCid ['e']) (some true) (.num 1), Op.reply (tokenCid ['e']) (some true) (.num 2),
    Op.timeout (tokenCid ['e'])], op.registers (tokenCid ['e']) = false := by decide +kernel
example : (run Quirks.none exDisp [Op.reply (tokenCid ['e']) (some true) (.num 1),
    Op.reply (tokenCid ['e']) (some true) (.num 2)]).log =
    [⟨['e'], tokenCid ['e'], .callback, .ok (.num 1)⟩] := by decide +kernel

/-- any other token — one that does not decode, or that names a correlation id no task of this
instance is waiting under — is answered InvalidToken and changes nothing -/
theorem other_token_inert (d : Disp) (tok : Str) (s : Bool) (body : Json)
    (h : ∀ cid q, decodeToken tok = some (cid, q) → q = d.replyQueue → aGet d.pending cid = none) :
    sendTask Quirks.none d tok s body = (.invalidToken, d, none) := by
  fun_cases sendTask Quirks.none d tok s body
  · rfl
  · rename_i cid queue hdec hc
    rw [h cid queue hdec hc.1] at hc
    cases hc.2
  · -- `statelessTokens` is off
    contradiction
  · rfl

example : ∀ cid q, decodeToken ['%'] = some (cid, q) → q = exDisp.replyQueue → aGet exDisp.pending cid = none := by
  intro cid q h
  have hn : decodeToken ['%'] = none := by decide +kernel
  rw [hn] at h; cases h

/-- the recorded deviation C15-F3, as a proved negation: with the switch on, a forged token is answered ok -/
example : (sendTask { statelessTokens := true } { replyQueue := replyFamily }
    (encodeToken (tokenCid ['z']) replyFamily) true .null).1 = .ok := by decide +kernel

/-- the recorded deviation C15-F2: with the switch on, a successful callback whose output has an
`Error` member fails the task -/
example : callbackOutcome { inBandCallbackError := true } true (.obj [(sError, .str ['E'])]) =
    .err sTaskFailed (.obj [(sError, .str ['E'])]) := by decide +kernel

/-- an asynchronous child: the task completes in its own launch step with the start information
(the child's ARN), nothing stays pending, the child is published to the shared queue -/
theorem async_child_returns_at_once (d : Disp) (l : Launch) (si : Json)
    (hv : validate l = none) (hf : l.form = .async) :
    (launch d l si).log = d.log ++ [⟨l.eventId, l.childArn, .launch, .ok si⟩] ∧
    (launch d l si).pending = d.pending ∧
    (launch d l si).started = d.started ++ [(l.childArn, true)] := by
  rw [launch_async d l si hv hf]
  exact ⟨rfl, rfl, rfl⟩

def exLaunch (f : Form) (p : MType) (c : Option MType) : Launch := ⟨['e'], ['P'], p, f, c, ['C']⟩

example : validate (exLaunch .async .standard (some .standard)) = none := by decide +kernel

/-- invalid combinations fail the task in its launch step: nothing is registered, no child is started -/
theorem invalid_combinations_fail_task (d : Disp) (l : Launch) (si : Json)
    (hfresh : aGet d.cancellers l.eventId = none)
    (h : l.childMachine = none ∨ ((l.form = .sync ∨ l.form = .sync2) ∧ l.parentType = .express) ∨
         (l.form = .sdkSync ∧ l.childMachine = some .standard)) :
    ∃ e, (launch d l si).log = d.log ++ [⟨l.eventId, corrId l, .launch, .err e (.str [])⟩] ∧
      (launch d l si).pending = d.pending ∧ (launch d l si).started = d.started := by
  obtain ⟨e, he⟩ : ∃ e, validate l = some e := by
    fun_cases validate l
    · exact ⟨_, rfl⟩
    · exact ⟨_, rfl⟩
    · exact ⟨_, rfl⟩
    · -- excluded by `h`
      grind
  refine ⟨e, ?_⟩
  rw [launch_invalid d l si e he, complete_err_fresh _ _ _ _ _ _ hfresh]
  exact ⟨rfl, rfl, rfl⟩

example : aGet exDisp.cancellers (exLaunch .sync .express (some .standard)).eventId = some ⟨.function, tokenCid ['e'], ['X']⟩ := by decide +kernel
example : aGet ({ replyQueue := [] } : Disp).cancellers (exLaunch .sync .express none).eventId = none := by decide +kernel
example : validate (exLaunch .sync .express (some .standard)) = some "InvalidResourceArn".toList ∧
    validate (exLaunch .sdkSync .standard (some .standard)) = some "InvalidResourceArn".toList ∧
    validate (exLaunch .sync2 .standard none) = some "StateMachineDoesNotExist".toList := by
  rw [String.toList_ofList, String.toList_ofList]
  decide +kernel

/-- the result of a synchronous child: the DescribeExecution fields under their documented names;
`Output` (and `Input`) as JSON for `.sync:2`, as text otherwise; a failed child fails the task with
`States.TaskFailed` whose cause carries the child's `Error` and `Cause` -/
theorem sync_result_shape (f : Form) (d : Detail) (inJ outJ : Json) :
    ∃ kvs, shape f d inJ outJ = .obj kvs ∧
      objGet kvs kExecutionArn = some (.str d.executionArn) ∧
      objGet kvs kStateMachineArn = some (.str d.stateMachineArn) ∧
      objGet kvs kName = some (.str d.name) ∧
      objGet kvs kStatus = some (.str d.status) ∧
      objGet kvs kStartDate = some (.num d.startDate) ∧
      objGet kvs kStopDate = some (.num d.stopDate) ∧
      objGet kvs kOutput = some (if f = .sync2 then outJ else optText d.output) ∧
      objGet kvs kInput = some (if f = .sync2 then inJ else .str d.input) ∧
      (∀ e c, d.failure = some (e, c) →
        objGet kvs sError = some e ∧ objGet kvs sCause = some c ∧
        childOutcome f d inJ outJ = .err sTaskFailed (.obj kvs)) ∧
      (d.failure = none → childOutcome f d inJ outJ = .ok (.obj kvs)) := by
  refine ⟨_, rfl, rfl, rfl, rfl, rfl, rfl, rfl, rfl, rfl, ?_, ?_⟩
  · intro e c hf
    simp only [childOutcome, shape, hf]
    exact ⟨rfl, rfl, trivial⟩
  · intro hf
    simp only [childOutcome, shape, hf]

/-- For every interleaving: `pre` and `post` are arbitrary operation sequences (events of the parent,
of the child, of other executions, callbacks, timeouts of other tasks, cancellations) that do not
launch under the same child ARN again.  If the parent's request is still pending when the child
becomes terminal, then nothing was completed under it before, the child's terminal step emits the
completion (with the shaped result), and nothing is completed under it afterwards. -/
theorem sync_child_completes_exactly_at_child_end
    (d0 : Disp) (pre post : List Op) (arn : Str) (r : Req) (f : Form) (det : Detail) (inJ outJ : Json)
    (hfresh : countKey arn d0.log + hasKey d0.pending arn ≤ 1)
    (hpre : ∀ op ∈ pre, op.registers arn = false) (hpost : ∀ op ∈ post, op.registers arn = false)
    (hp : aGet (run Quirks.none d0 pre).pending arn = some r) (hk : r.kind = .child f) :
    countKey arn (run Quirks.none d0 pre).log = 0 ∧
    (∃ extra, (step Quirks.none (run Quirks.none d0 pre) (.childEnd arn det inJ outJ)).log =
        (run Quirks.none d0 pre).log ++ ⟨r.owner, arn, .childEnd, childOutcome f det inJ outJ⟩ :: extra ∧
        ∀ x ∈ extra, x.via = .cancel ∨ x.via = .waitCancel) ∧
    countKey arn (run Quirks.none (step Quirks.none (run Quirks.none d0 pre) (.childEnd arn det inJ outJ)) post).log ≤ 1 := by
  have h1 := Nat.le_trans (phi_run arn pre d0 hpre) hfresh
  have h3 := Nat.le_trans (phi_run arn post _ hpost)
    (Nat.le_trans (phi_step arn _ (.childEnd arn det inJ outJ) rfl) h1)
  rw [phi, hasKey_some _ _ _ hp] at h1
  refine ⟨Nat.eq_zero_of_le_zero (Nat.le_of_succ_le_succ h1), ?_, Nat.le_trans (Nat.le_add_right _ _) h3⟩
  show ∃ extra, (onChildEnd (run Quirks.none d0 pre) arn det inJ outJ).log = _ ∧ _
  rw [onChildEnd_child _ arn r f det inJ outJ hp hk]
  exact (complete_spec _ _).1

def exParent : Disp :=
  launch { replyQueue := replyFamily } (exLaunch .sync2 .standard (some .express)) .null

example : countKey ['C'] exParent.log + hasKey exParent.pending ['C'] ≤ 1 := by decide +kernel
example : aGet (run Quirks.none exParent [Op.rpc .fn ['t'] ['C'], Op.reply ['t'] none (.num 1)]).pending ['C'] =
    some ⟨['e'], ['P'], .child .sync2⟩ := by decide +kernel

/-- When the parent's StepFunction task is cancelled (its branch was terminated, or — through the
Task state's error path — it timed out), every canceller registered under the child's ARN at that
moment is consumed, the requests of those that are tasks are no longer pending, and neither is the
parent's own request. -/
theorem parent_cancel_cascades (n : Nat) (d : Disp) (e : Str) (c : Canc)
    (hc : aGet d.cancellers e = some c) (hs : c.type = .stepFunction)
    (k : Str) (kc : Canc) (hk : aGet d.cancellers k = some kc) (hx : kc.exec = c.taskId) :
    aGet (cancelTask (n + 2) d e).cancellers k = none ∧
    (kc.type ≠ .timeout → aGet (cancelTask (n + 2) d e).pending kc.taskId = none) ∧
    aGet (cancelTask (n + 2) d e).pending c.taskId = none := by
  have hrem : aGet (cancelTask (n + 2) d e).cancellers k = none := by
    by_cases hke : k = e
    · subst hke; exact cancelTask_removes (n + 1) d k
    · rw [cancelTask_stepFunction (n + 1) d e c hc hs]
      apply foldl_removes n k
      have : aGet (cancelOne d e c).cancellers k = some kc := by
        rw [cancelOne_cancellers, aGet_aDel, if_neg hke]; exact hk
      rw [← hx]
      exact mem_keysFor _ _ _ this
  have hsh := cascade_cancelTask (n + 2) d e
  exact ⟨hrem, fun ht => hsh.gone hk ht hrem, hsh.gone hc (by rw [hs]; decide) (cancelTask_removes (n + 1) d e)⟩

/-- … and the timeout of the parent's task is such a cancellation: `on_response` cancels the task -/
theorem parent_timeout_cascades (d : Disp) (cid : Str) (r : Req) (c : Canc)
    (hp : aGet d.pending cid = some r) (hc : aGet d.cancellers r.owner = some c) (hs : c.type = .stepFunction)
    (k : Str) (kc : Canc) (hk : aGet d.cancellers k = some kc) (hx : kc.exec = c.taskId) :
    aGet (onTimeout d cid).cancellers k = none ∧
    (kc.type ≠ .timeout → aGet (onTimeout d cid).pending kc.taskId = none) := by
  rw [onTimeout_some d cid r hp]
  have hl := List.length_pos_of_mem (mem_of_aGet _ _ _ hc)
  obtain ⟨m, hm⟩ := Nat.exists_eq_succ_of_ne_zero (Nat.ne_of_gt hl)
  rw [hm]
  have := parent_cancel_cascades m (timedOut d cid r) r.owner c hc hs k kc hk hx
  exact ⟨this.1, this.2.1⟩

/-- a parent blocked on child `C`, the child blocked on a task `t` and a wait `w` -/
def exCascade : Disp :=
  launchWait (launchRpc exParent .fn ['t'] ['C']) ['w'] ['C']

example : aGet exCascade.cancellers ['e'] = some ⟨.stepFunction, ['C'], ['P']⟩ ∧
    aGet exCascade.cancellers ['t'] = some ⟨.function, ['t'], ['C']⟩ ∧
    aGet exCascade.cancellers ['w'] = some ⟨.timeout, ['w'], ['C']⟩ ∧
    aGet exCascade.pending ['C'] = some ⟨['e'], ['P'], .child .sync2⟩ := by decide +kernel
example : (onTimeout exCascade ['C']).cancellers = [] ∧ (onTimeout exCascade ['C']).pending = [] := by decide +kernel

end Asl.C15
