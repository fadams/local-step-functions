/-
C16 — service quotas are enforced at the exact boundary.

The `gen_*` theorems are the obligations over `AslModel/Generated.lean`, the part of the model
that `harness/extract.py` regenerates from the live modules on every run: when a constant of the
code changes they stop checking, `lake build` fails, and the check goes on to find a concrete
failing input with its boundary probes.
-/
import Proofs.Lemmas.Quota
namespace Asl.C16
open Asl Asl.Quota

/-- the state engine's data limit is the documented 262144 (256 * 1024) characters -/
theorem gen_max_data : Generated.maxDataLength = 262144 := by decide

/-- every copy of a limit constant (task dispatcher, the two REST front ends) equals the state
engine's -/
theorem gen_copies_agree :
    Generated.maxDataLengthTaskDispatcher = Generated.maxDataLength ∧
    Generated.maxDataLengthRestApiAsyncio = Generated.maxDataLength ∧
    Generated.maxDataLengthRestApi = Generated.maxDataLength ∧
    Generated.maxStateMachineLengthRestApiAsyncio = Generated.maxStateMachineLength ∧
    Generated.maxStateMachineLengthRestApi = Generated.maxStateMachineLength := by decide

theorem gen_max_definition : Generated.maxStateMachineLength = 1048576 := by decide

theorem gen_max_history : Generated.maxExecutionHistoryLength = 25000 := by decide

/-- the lengths (probed 0..100) on which each front end's `valid_name` answers true are exactly
1..80 -/
theorem gen_name_window :
    Generated.nameLengthsAccepted = List.range' 1 80 ∧
    Generated.nameLengthsAcceptedRestApi = List.range' 1 80 ∧
    80 < Generated.nameProbeMax := by decide +kernel

theorem dataLimit_eq (site : DataSite) : dataLimit site = 262144 := by
  cases site <;> decide

/-- every enforcement predicate — API input on both front ends,
StartSyncExecution, SendTaskSuccess, state output, task reply, callback output — accepts a
measured length iff it is at most 262144. -/
theorem data_limit_iff (site : DataSite) (len : Nat) :
    checkData site len = .accepted ↔ len ≤ 262144 := by
  rw [checkData, ite_verdict_iff]
  simp [acceptsData, dataLimit_eq]

/-- a refusal is reported the documented way: `InvalidExecutionInput` by StartExecution and
StartSyncExecution, `InvalidOutput` by SendTaskSuccess, `States.DataLimitExceeded` inside an
execution -/
theorem data_refusal (site : DataSite) (len : Nat) (h : 262144 < len) :
    checkData site len = .refused (dataError site) ∧
    (dataError .stateOutput = "States.DataLimitExceeded".toList ∧
      dataError .taskReply = "States.DataLimitExceeded".toList ∧
      dataError .callbackOutput = "States.DataLimitExceeded".toList ∧
      dataError .apiSendTaskSuccess = "InvalidOutput".toList ∧
      dataError .apiStartExecution = "InvalidExecutionInput".toList ∧
      dataError .apiStartExecutionFlask = "InvalidExecutionInput".toList ∧
      dataError .apiStartSyncExecution = "InvalidExecutionInput".toList) := by
  refine ⟨?_, rfl, rfl, rfl, rfl, rfl, rfl, rfl⟩
  apply ite_verdict_refused
  simp only [acceptsData, dataLimit_eq, decide_eq_false_iff_not, Nat.not_le]
  omega

/-- a state's output is measured on the engine's own JSON text of it -/
theorem state_output_iff (data : Json) :
    checkStateOutput data = .accepted ↔ (render data).length ≤ 262144 := by
  simp [checkStateOutput, serLen, data_limit_iff]

/-- a submitted text / a reply text is measured in characters -/
theorem text_iff (site : DataSite) (text : Str) :
    checkText site text = .accepted ↔ text.length ≤ 262144 := by
  simp [checkText, data_limit_iff]

theorem defLimit_eq (site : DefSite) : defLimit site = 1048576 := by
  cases site <;> decide

/-- Create/UpdateStateMachine on both front ends accept a definition
iff it is non-empty and at most 1048576 characters long -/
theorem definition_limit_iff (site : DefSite) (len : Nat) :
    checkDefinition site len = .accepted ↔ 1 ≤ len ∧ len ≤ 1048576 := by
  rw [checkDefinition, ite_verdict_iff]
  simp only [acceptsDefinition, ne_eq, decide_not, defLimit_eq, Bool.and_eq_true, Bool.not_eq_eq_eq_not,
    Bool.not_true, decide_eq_false_iff_not, decide_eq_true_eq, and_congr_left_iff]
  omega

theorem nameLengths_eq (site : NameSite) : nameLengths site = List.range' 1 80 := by
  cases site
  · exact gen_name_window.1
  · exact gen_name_window.2.1

/-- the quota's reading of a valid name is the validator of the ARN layer (C17) -/
theorem name_is_validName (site : NameSite) (s : Str) :
    acceptsName site s = validName s := by
  simp only [acceptsName, validName, nameLengths_eq, maxNameLength, range_window]
  rfl

/-- a name is accepted iff it has 1..80 characters none of which is one of
the forbidden characters -/
theorem name_limit_iff (site : NameSite) (s : Str) :
    checkName site s = .accepted ↔
      1 ≤ s.length ∧ s.length ≤ 80 ∧ ∀ c ∈ s, c ∉ forbiddenNameChars := by
  rw [checkName, ite_verdict_iff, name_is_validName, validName_iff]

theorem sites_agree :
    (∀ (s₁ s₂ : DataSite) (len : Nat), acceptsData s₁ len = acceptsData s₂ len) ∧
    (∀ (s₁ s₂ : DefSite) (len : Nat), acceptsDefinition s₁ len = acceptsDefinition s₂ len) ∧
    (∀ (s₁ s₂ : NameSite) (s : Str), acceptsName s₁ s = acceptsName s₂ s) := by
  refine ⟨?_, ?_, ?_⟩
  · intro s₁ s₂ len; simp [acceptsData, dataLimit_eq]
  · intro s₁ s₂ len; simp [acceptsDefinition, defLimit_eq]
  · intro s₁ s₂ s; rw [name_is_validName, name_is_validName]

/-- values exactly at a limit are accepted, at every site -/
theorem at_limit_accepted :
    (∀ site, checkData site 262144 = .accepted) ∧
    (∀ site, checkDefinition site 1048576 = .accepted) ∧
    (∀ site, checkDefinition site 1 = .accepted) ∧
    (∀ site, checkName site (padChars 80) = .accepted) ∧
    (∀ site, checkName site (padChars 1) = .accepted) := by
  refine ⟨fun s => (data_limit_iff s _).mpr (by omega),
    fun s => (definition_limit_iff s _).mpr (by omega),
    fun s => (definition_limit_iff s _).mpr (by omega), ?_, ?_⟩
  all_goals intro s; rw [checkName, name_is_validName]; decide

/-- values one over (one under the lower bound) are refused, at every
site, with that site's documented error -/
theorem one_over_refused :
    (∀ site, checkData site 262145 = .refused (dataError site)) ∧
    (∀ site, checkDefinition site 1048577 = .refused "InvalidDefinition".toList) ∧
    (∀ site, checkDefinition site 0 = .refused "InvalidDefinition".toList) ∧
    (∀ site, checkName site (padChars 81) = .refused "InvalidName".toList) ∧
    (∀ site, checkName site [] = .refused "InvalidName".toList) := by
  refine ⟨fun s => (data_refusal s _ (by omega)).1, ?_, ?_, ?_, ?_⟩
  · intro s; apply ite_verdict_refused; simp [acceptsDefinition, defLimit_eq]
  · intro s; apply ite_verdict_refused; simp [acceptsDefinition]
  all_goals intro s; apply ite_verdict_refused; rw [name_is_validName]; decide

/-- the JSON text (Python `json.dumps`) of the generator's padding documents has
the intended length, for every n -/
theorem serLen_pad (n : Nat) :
    serLen (padStr n) = n + 2 ∧ serLen (padObj n) = n + 9 ∧
    serLen (padArr n) = n + 4 ∧ serLen (padArr2 n) = n + 7 := by
  have h := render_padStr_length n
  refine ⟨h, ?_, ?_, ?_⟩
  · simp only [serLen, padObj, render, renderM, quote_p]
    simp [h]
  · simp only [serLen, padArr, render, renderL]
    simp [h]
  · simp only [serLen, padArr2, render, renderL]
    have : (intText 0).length = 1 := by decide
    simp [h, this]

/-- so a state whose output is the padding object of 262135 characters is accepted and the one of
262136 characters fails with `States.DataLimitExceeded` -/
theorem pad_hits_boundary :
    checkStateOutput (padObj 262135) = .accepted ∧
    checkStateOutput (padObj 262136) = .refused "States.DataLimitExceeded".toList := by
  constructor
  · rw [state_output_iff]
    have := (serLen_pad 262135).2.1
    unfold serLen at this; omega
  · have h := (serLen_pad 262136).2.1
    unfold checkStateOutput
    rw [h]
    exact (data_refusal .stateOutput _ (by omega)).1

/-- a run made of first entries (`e = 1`) and re-entries (`e = 0`: a
retried state, a Map state re-entered for its next batch), each appending at most K events after
the check, never records more than 25000 + K events while it is running and never more than
25000 + K + 2 at all — the check is made on *every* pass, also on the ones that log no entry. -/
theorem history_bounded_passes (K h : Nat) (ps : List (Nat × Nat))
    (hK : ∀ p ∈ ps, p.1 ≤ 1 ∧ p.2 ≤ K) (hh : h ≤ 25000 + K) :
    ((runPasses h ps).failed = false → (runPasses h ps).len ≤ 25000 + K) ∧
    (runPasses h ps).len ≤ 25000 + K + 2 := by
  have := runPasses_bound K h ps hK (by rw [gen_max_history]; exact hh)
  rw [gen_max_history] at this
  exact ⟨this.1, by have := this.2; simp [closingEvents] at this; omega⟩

/-- a run cannot go on for ever by retrying — when every pass records at
least one event (a first entry logs `…StateEntered`, a retried Task logs its scheduling), a run of
more than 25001 passes past `h` recorded events has been failed; and a failed run did exceed the
limit. -/
theorem retry_loop_is_failed (h : Nat) (ps : List (Nat × Nat)) (hpos : ∀ p ∈ ps, 1 ≤ p.1 + p.2) :
    (25000 < h + (ps.length - 1) → ps ≠ [] → (runPasses h ps).failed = true) ∧
    ((runPasses h ps).failed = true → 25000 < (runPasses h ps).len) :=
  ⟨fun hlen hne => runPasses_fails 0 h ps (fun p hp => ⟨Nat.zero_le _, hpos p hp⟩) hne (by rw [gen_max_history]; omega),
    fun hf => gen_max_history ▸ runPasses_failed_over h ps hf⟩

-- non-vacuity: a state entered once and then retried (re-entries log nothing, each attempt 3 events)
example : (∀ p ∈ [(1, 3), (0, 3), (0, 3), (0, 3)], p.1 ≤ 1 ∧ p.2 ≤ 3) ∧ 24994 ≤ 25000 + 3 ∧
    (∀ p ∈ [(1, 3), (0, 3), (0, 3), (0, 3)], 1 ≤ p.1 + p.2) ∧
    (runPasses 24994 [(1, 3), (0, 3), (0, 3), (0, 3)]).failed = true ∧
    (runPasses 24994 [(1, 3), (0, 3), (0, 3), (0, 3)]).len = 25002 := by decide

/-- a run given by its state visits is the run of passes that all log their entry -/
theorem passes_generalise_visits (h : Nat) (adds : List Nat) :
    runHistory h adds = runPasses h (adds.map (fun a => (1, a))) :=
  runHistory_eq_runPasses h adds

/-- whatever the states of a run append (at most K events each), a run that
starts within bounds never records more than 25000 + K events while it is running, and never more
than 25000 + K + 2 at all: the first state entry that finds more than 25000 events fails the
execution, which appends one closing event. -/
theorem history_bounded (K h : Nat) (adds : List Nat) (hK : ∀ a ∈ adds, a ≤ K)
    (hh : h ≤ 25000 + K) :
    ((runHistory h adds).failed = false → (runHistory h adds).len ≤ 25000 + K) ∧
    (runHistory h adds).len ≤ 25000 + K + 2 := by
  rw [passes_generalise_visits]
  refine history_bounded_passes K h _ (fun p hp => ?_) hh
  obtain ⟨a, ha, rfl⟩ := List.mem_map.mp hp
  exact ⟨Nat.le_refl 1, hK a ha⟩

/-- an execution cannot go on past the limit — every state entry appends
an event, so a run of more than 25000 state visits has been failed; and a failed run did exceed
the limit (the check never fails an execution early). -/
theorem history_limit_fails (h : Nat) (adds : List Nat) :
    (25000 < h + adds.length → adds ≠ [] → (runHistory h adds).failed = true) ∧
    ((runHistory h adds).failed = true → 25000 < (runHistory h adds).len) := by
  -- visits are the passes whose entry is one event: the last check saw one event more than a retry loop's
  rw [passes_generalise_visits]
  refine ⟨fun hlen hne => runPasses_fails 1 h _ (by simp) (by simpa using hne) ?_,
    fun hf => gen_max_history ▸ runPasses_failed_over h _ hf⟩
  have := List.length_pos_iff.mpr hne
  rw [gen_max_history, List.length_map]
  omega

/-- the check is made on entry: a state entered with exactly 25000 events recorded (the entry
makes 25000 + 1 > 25000) is the first to fail; one entered with 24999 still runs -/
theorem history_entry_boundary (a : Nat) :
    (visit 24999 a).failed = false ∧ (visit 25000 a).failed = true := by
  rw [Bool.eq_false_iff, Ne, visit_failed_iff, visit_failed_iff, gen_max_history]
  omega

/-! ### the recorded deviation (finding C16-F1; the switch remains in the model) breaks the property -/

/-- with the switch on, a terminal state's output of 262145 characters is accepted although the
site refuses that length; with `Quirks.none` the terminal flag is irrelevant -/
theorem quirk_terminal_breaks :
    checkStateOutputLenQ { terminalOutputUnchecked := true } true 262145 = .accepted ∧
    checkData .stateOutput 262145 ≠ .accepted ∧
    (∀ terminal len, checkStateOutputLenQ Quirks.none terminal len = checkData .stateOutput len) := by
  refine ⟨by simp [checkStateOutputLenQ], ?_, ?_⟩
  · rw [Ne, data_limit_iff]; omega
  · intro t len; simp [checkStateOutputLenQ, Quirks.none]

/-! ### non-vacuity: the hypotheses are met by concrete, non-trivial instances -/

-- history_bounded: a run near the limit whose states append at most 4 events each
example : (∀ a ∈ [4, 1, 3, 4, 2], a ≤ 4) ∧ 24990 ≤ 25000 + 4 ∧
    (runHistory 24990 [4, 1, 3, 4, 2]).failed = true ∧
    (runHistory 24990 [4, 1, 3, 4, 2]).len = 25003 := by decide

-- history_bounded, running case: the run ends before the limit
example : (runHistory 10 [4, 1, 3]).failed = false ∧ (runHistory 10 [4, 1, 3]).len = 21 := by decide

-- history_limit_fails: both hypotheses of the first clause hold for a concrete run
example : 25000 < 24999 + [1, 1].length ∧ ([1, 1] : List Nat) ≠ [] ∧
    (runHistory 24999 [1, 1]).failed = true := by decide

-- data_refusal: a length over the limit exists at every site, with a site-specific error
example : (262144 < 262145) ∧ checkData .apiSendTaskSuccess 262145 = .refused "InvalidOutput".toList := by
  decide +kernel

-- name_limit_iff: a real name with unusual but permitted characters, and one with a forbidden one
example : checkName .asyncio "my-machine_1.v2".toList = .accepted ∧
    checkName .flask "my machine".toList = .refused "InvalidName".toList := by
  -- `rw`, not evaluation: `String.toList` on a literal is quadratic to evaluate
  repeat rw [String.toList_ofList]
  decide +kernel

-- serLen_pad on a small instance, computed
example : render (padObj 3) = "{\"p\": \"aaa\"}".toList ∧ serLen (padArr2 2) = 9 := by decide +kernel

end Asl.C16
